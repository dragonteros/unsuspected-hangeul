import UH.Model.Main
import UH.Properties.Tables
import UH.Properties.C01
import UH.Properties.C02
import UH.Properties.C03
import UH.Properties.C04
import UH.Properties.C05
import UH.Properties.C06
import UH.Properties.C07
import UH.Properties.C08
import UH.Properties.C09
import UH.Properties.C10
import UH.Properties.C11
import UH.Properties.C12
import UH.Properties.C13
import UH.Properties.C14
import UH.Properties.C15
import UH.Properties.C16
import UH.Properties.C17
import UH.Properties.C18
import UH.Properties.C19
import UH.Properties.C20
import UH.Properties.NatSem
import UH.Properties.NatSemIO
import UH.Proofs.EvalF
import UH.Proofs.Range
import UH.Properties.ByName
import UH.Proofs.Adequacy
