/-
C07 — I/O happens only when an action is executed, once each, in bind order.

In the model the only nodes that touch the world are `world` nodes; the I/O
built-ins merely *construct* action values — their coroutines contain no world node.
-/
import UH.Model.Main
import UH.Proofs.Comp
namespace UH.C07
open UH Comp

theorem print_builds (sp : Span) (s : String) :
    bPrint sp [.strict (.str s)] = ret (.strict (.io .print [.strict (.str s)] sp none)) := rfl

theorem input_builds (sp : Span) : bInput sp [] = ret (.strict (.io .input [] sp none)) := rfl

theorem return_builds (sp : Span) (a : Arg) :
    bReturn sp [a] = call (.recStrict a) (fun r => match r with
      | .arg x => ret (.strict (.io .ret [x] sp none)) | _ => bottom) Comp.throw :=
  call_congr _ _ fun r => by cases r <;> rfl

/-- `ㄱㄹ` forces its first argument to an action and its function arguments to callables — and
builds the bind action without executing anything -/
theorem bind_builds (sp : Span) (io : Val) (f : Val) (hio : io.isIO = true) (hf : f.isCallable = true) :
    bBind isBuiltinName sp [.strict io, .strict f] =
      ret (.strict (.io .bind [.strict io, .strict f] sp (some (io, f, none)))) := by
  simp [bBind, hio, hf, strictFunctional, retV]

/-- **ㅈㄹ writes its string and a newline**, and yields the empty value -/
theorem exec_print (st : Store) (w : World) (sp : Span) (s : String) :
    doWorld st w (.print sp s) =
      (st, { w with stdout := ('\n' :: s.toList.reverse) ++ w.stdout }, .ok (.strict .nil)) := rfl

/-- **ㄹ at end of input yields the empty value and consumes nothing** -/
theorem exec_read_eof (st : Store) (w : World) (sp : Span) (h : w.stdin = []) :
    doWorld st w (.readLine sp) = (st, w, .ok (.strict .nil)) := by
  simp [doWorld, h]

/-- ㄹ on input that is not exhausted: `line` is what stands before the first newline, `tl` the rest — empty, or
beginning with that newline -/
theorem exec_read (st : Store) (w : World) (sp : Span) (line tl : List Char) (hl : ∀ c ∈ line, c ≠ '\n')
    (htl : ∀ c ∈ tl.head?, c = '\n') (hne : line ++ tl ≠ []) (h : w.stdin = line ++ tl) :
    doWorld st w (.readLine sp) =
      (st, { w with stdin := tl.drop 1 }, .ok (.strict (.str (String.ofList line)))) := by
  have hall : ∀ c ∈ line, (c != '\n') = true := by intro c hc; simpa using hl c hc
  have hstop : tl.takeWhile (· != '\n') = [] ∧ tl.dropWhile (· != '\n') = tl := by
    cases tl with
    | nil => exact ⟨rfl, rfl⟩
    | cons c r => cases htl c rfl; exact ⟨rfl, rfl⟩
  have hline : (line ++ tl).takeWhile (· != '\n') = line := by
    rw [List.takeWhile_append_of_pos hall, hstop.1, List.append_nil]
  have hrest : (line ++ tl).dropWhile (· != '\n') = tl := by
    rw [List.dropWhile_append_of_pos hall, hstop.2]
  have he : (line ++ tl).isEmpty = false := by simpa using hne
  simp only [doWorld, h, he, Bool.false_eq_true, if_false, hline, hrest]

/-- **ㄹ yields one line without its newline** and consumes exactly that line and its newline -/
theorem exec_read_line (st : Store) (w : World) (sp : Span) (line rest : List Char)
    (hl : ∀ c ∈ line, c ≠ '\n') (h : w.stdin = line ++ '\n' :: rest) :
    doWorld st w (.readLine sp) =
      (st, { w with stdin := rest }, .ok (.strict (.str (String.ofList line)))) :=
  exec_read st w sp line ('\n' :: rest) hl (by simp) (by simp) h

/-- a last line without a newline is yielded whole -/
theorem exec_read_last (st : Store) (w : World) (sp : Span) (line : List Char) (hne : line ≠ [])
    (hl : ∀ c ∈ line, c ≠ '\n') (h : w.stdin = line) :
    doWorld st w (.readLine sp) = (st, { w with stdin := [] }, .ok (.strict (.str (String.ofList line)))) :=
  exec_read st w sp line [] hl (by simp) (by simpa using hne) (by simpa using h)

/-- **ㄱㄹ runs its first action first**; on a value the continuation is applied to it, on an
exception the handler (if given) is applied to the exception value, else it propagates -/
theorem bind_sequence (argv : List Arg) (sp : Span) (io0 resolve : Val) (reject : Option Val) :
    ∃ kOk kErr, ioCont .bind argv sp (some (io0, resolve, reject)) = call (.doIO io0) kOk kErr ∧
      (∀ a, kOk (.arg a) = (do
        checkCallee isBuiltinName sp resolve false
        let r ← callArg (.apply resolve sp [a])
        let rv ← forceArg r
        checkType sp [rv] Val.isIO
        retV rv)) ∧
      (∀ e, kErr e = match reject with
        | none => Comp.throw e
        | some rej => (do
          checkCallee isBuiltinName sp rej false
          let r ← callArg (.apply rej sp [.strict (.err e.metas e.vals)])
          let rv ← forceArg r
          checkType sp [rv] Val.isIO
          retV rv)) := by
  refine ⟨_, _, rfl, fun a => rfl, fun e => ?_⟩
  cases reject <;> rfl

/-- **the `do_IO` loop**: executing an action runs its continuation once, forces the produced
value, and — if that is again an action (the one a bind's continuation returned) — executes it next -/
theorem doIO_step (inst : IOInst) (argv : List Arg) (sp : Span) (bnd) :
    doIO (.io inst argv sp bnd) = (do
      let a ← ioCont inst argv sp bnd
      let v' ← forceArg a
      callArg (.doIO v')) := rfl

/-- an integer, not being an action, ends the loop -/
theorem doIO_done (n : Int) : doIO (.int n) = ret (.strict (.int n)) := rfl

/-- **ㄱㅅ executed yields the value it was given** (already deep-forced at construction) -/
theorem exec_return (a : Arg) (sp : Span) : ioCont .ret [a] sp none = ret a := rfl

/-- executing input / print are single world effects -/
theorem exec_primitives (sp : Span) (s : String) :
    ioCont .input [] sp none = worldArg (.readLine sp) ∧
    ioCont .print [.strict (.str s)] sp none = worldArg (.print sp s) := ⟨rfl, rfl⟩

end UH.C07
