/-
C20 — evaluations are isolated from each other and independent of the host hash seed.

The model's front end `runMain` is a *function* of (fuel, world, program text,
flag): there is no interpreter state an earlier evaluation could leave behind —
in particular no hash seed and no global table other than the world's module
registry — so determinism and order-independence hold by construction.  That the *implementation* has no other
hidden state (stale requestor links, memo fields on values, dictionary order)
is established by the session / hash-seed correspondence (harness/uh/props/c20.py).
-/
import UH.Model.Main
import UH.Proofs.Session
import UH.Properties.ByName
namespace UH.C20
open UH

/-- `runMain` is a function of fuel, world (input, files, module registry), program text and flag: equal worlds give equal
outcomes — congruence, which holds of any function -/
theorem standalone_deterministic (fuel : Nat) (w₁ w₂ : World) (text : List Nat) (fio : Bool)
    (h : w₁ = w₂) : (runMain fuel w₁ text fio).outcome = (runMain fuel w₂ text fio).outcome := by
  rw [h]

/-- a run whose program text does not parse ends with the empty store.  (Only the syntax-error branch of `runMain` is covered;
that every run starts from `initStore` — nothing of an earlier run's heap is reachable — is read off its definition.) -/
theorem fresh_store_each_time (fuel : Nat) (w : World) (text : List Nat) (fio : Bool) (pe : PErr)
    (h : parse normChar text = .error pe) : (runMain fuel w text fio).store.cells.size = 0 := by
  simp [runMain, h, initStore, Heap.empty]

/-- `==` on `Key` is the structural `Key.beq`, by definition of the instance: no hash value of the host occurs in the
model, so there is nothing for a hash seed to influence -/
theorem keys_are_structural (a b : Key) : (a == b) = true ↔ Key.beq a b = true := Iff.rfl

/-- one step of the insertion by which a dictionary's printed entries are ordered by printed key: a pair whose key is smaller
than that of the head goes in front (that the whole result is sorted is not stated) -/
theorem insertByKey_sorted_head (p q : String × String) (r : List (String × String)) (h : p.1 < q.1) :
    insertByKey p (q :: r) = p :: q :: r := by
  simp [insertByKey, String.lt_asymm h]

/-! ### isolation inside one heap

The model's `runMain` starts every run from the initial store.  The implementation does not: one
Python heap carries every object earlier evaluations created.  The following theorems are about that situation — programs
evaluated one after another in *one growing heap* — for the programs of the fragment of `ByName.BN`; the heap must satisfy
the invariant of the adequacy proof, which the initial heap does and every evaluation re-establishes. -/

open ByName BigStep in
/-- a closed program evaluated in *any* heap satisfying the invariant computes its by-name value and leaves such a heap -/
theorem evaluation_in_any_heap {G : Ghost} {s : Store} (inv : Inv G s) (e : AST) (n : Int) (w : World)
    (hbn : BN (.mk [] []) e (.int n)) :
    ∃ (h : Nat) (G' : Ghost) (s' : Store),
      Eval (alloc s e ⟨[], []⟩) w (.frame s.cells.size) h (.ok (.arg (.strict (.int n)))) s' w ∧ Inv G' s' :=
  adequacy_anywhere inv w hbn

open ByName in
/-- **every sequence of programs** (any order, any repetitions), evaluated one after another in one heap, produces program
by program the values the programs have on their own — from every heap that satisfies the invariant -/
theorem session_isolated (w : World) {es : List AST} {ns : List Int} (hv : Vals es ns) :
    ∀ (G : Ghost) (s : Store), Inv G s → ∃ (G' : Ghost) (s' : Store), Session w s es ns s' ∧ Inv G' s' :=
  ByName.session_isolated w hv

open ByName in
theorem session_from_start (w : World) {es : List AST} {ns : List Int} (hv : Vals es ns) :
    ∃ s', Session w initStore es ns s' := by
  obtain ⟨_, s', hs, _⟩ := session_isolated w hv _ _ inv_init
  exact ⟨s', hs⟩

open ByName in
theorem session_outputs_unique {es : List AST} {ns ns' : List Int} (hv : Vals es ns) (hv' : Vals es ns') : ns = ns' :=
  ByName.session_outputs_unique (w := default) hv hv'

open ByName in
/-- a closed instance (the hypotheses are satisfiable): the session `3`, `countdown 2`, `3` — a program, a recursive program that
fills memo cells and requestor chains, and the first program again — yields 3, 0, 3 -/
example (w : World) : ∃ s', Session w initStore [.lit 3 ⟨0, 0, 0⟩, NatSemP.countdown 2, .lit 3 ⟨0, 0, 0⟩] [3, 0, 3] s' :=
  session_from_start w (.cons BN.lit (.cons (ByNameP.bn_countdown 2) (.cons BN.lit .nil)))

end UH.C20
