/-
[tie A] The finite tables the model uses are the tables of /repo's current source
(`UH/Generated/Tables.lean` is regenerated on every run).
-/
import UH.Model.Machine
import UH.Generated.Tables
namespace UH.Tables
open UH

def sameSet {α} [BEq α] (a b : List α) : Bool := a.all (b.contains ·) && b.all (a.contains ·)

/-- the model's built-in names are exactly the keys of `interpret.BUITLINS` -/
theorem builtinNames_match : sameSet UH.builtinNames Generated.builtinNames = true := by decide +kernel

/-- the model implements every name of the table (no name falls through to "not found") -/
theorem builtins_implemented :
    Generated.builtinNames.all (fun n => (builtinOf (parseNumber n)).isSome) = true := by decide +kernel

/-- every built-in name is the canonical (shortest) spelling of its value, so `find_builtin`'s
lookup by `encode_number(value)` reaches it from any spelling of the same number (C08) -/
theorem builtinNames_canonical :
    Generated.builtinNames.all (fun n => encodeNumber (parseNumber n) == n) = true := by decide +kernel

theorem fileModes_match :
    Generated.fileModes = [([3], "rb"), ([7, 3], "wb"), ([7, 0], "ab"), ([3, 7, 3], "r+b"),
      ([7, 3, 3], "w+b"), ([7, 0, 3], "a+b")] ∧ Generated.fileModes.map (·.1) = UH.fileModes := by
  decide +kernel

theorem fileModes_canonical :
    Generated.fileModes.all (fun m => encodeNumber (parseNumber m.1) == m.1) = true := by decide +kernel

/-- file commands ㄷ close, ㄹ read, ㅈㄹ write, ㅈ seek/tell, ㄱ truncate -/
theorem fileCommands_match : sameSet Generated.fileCommands [[2], [3], [7, 3], [7], [0]] = true := by
  decide +kernel

theorem fileCommands_canonical :
    Generated.fileCommands.all (fun m => encodeNumber (parseNumber m) == m) = true := by decide +kernel

theorem whence_match : Generated.whenceNames = [[6, 7, 5, 2], [7, 0, 5, 2]] := by decide +kernel

theorem whence_canonical :
    Generated.whenceNames.all (fun m => encodeNumber (parseNumber m) == m) = true := by decide +kernel

/-- the exception contents of every error class begin with the built-in marker 5, then the class code (OSError carries a
further 7) -/
theorem errorCodes_match :
    Generated.errorCodes =
      [("OSError", [5, ErrClass.os.code, 7]), ("ArithmeticError", [5, ErrClass.arithmetic.code]),
       ("SyntaxError", [5, ErrClass.syntax.code]), ("TypeError", [5, ErrClass.type.code]),
       ("ValueError", [5, ErrClass.value.code]), ("DivisionError", [5, ErrClass.division.code]),
       ("NotFoundError", [5, ErrClass.notFound.code]), ("ImportError", [5, ErrClass.import_.code]),
       ("OutOfRangeError", [5, ErrClass.outOfRange.code]),
       ("KeyboardInterruptError", [5, ErrClass.interrupt.code])] := by decide +kernel

theorem codecSchemes_match : Generated.codecSchemes = ["utf", "unsigned", "signed", "float"] := by
  decide +kernel

theorem bmodPaths_match : sameSet UH.bmodPaths Generated.bmodFunctionPaths = true := by decide +kernel

theorem bmodConstants_match :
    sameSet Generated.bmodConstantPaths [[6, 5], [6, 7], [6, 4], [6, 1]] = true := by decide +kernel

theorem maxStackSize_match : UH.maxStackSize = Generated.maxStackSize := by decide

end UH.Tables
