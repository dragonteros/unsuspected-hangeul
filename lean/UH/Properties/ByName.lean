/-
C02 — the evaluator computes the values of the specification's lexically scoped, non-strict semantics.

`ByName.BN` (UH/Proofs/ByName.lean) is a *reference semantics* of the core calculus that knows nothing of
the implementation: no store, no memo cells, no requestor chains, no frames, no tail calls; every use of an argument
re-evaluates it (call by name).
`adequacy` (UH/Proofs/Adequacy.lean) proves that the evaluator's call-by-need semantics (`BigStep.Eval`, which the micro-step machine realises —
`NatSemP.bigstep_sound_frame`) yields exactly the values `BN` assigns: memoisation, sharing through requestor chains
and tail returns never change a result.
-/
import UH.Proofs.Adequacy
import UH.Proofs.EvalFComplete
import UH.Properties.NatSem
import UH.Proofs.NatSemIO
namespace UH.ByNameP
open UH BigStep ByName

theorem by_name_deterministic {ρ e v1 v2} (h1 : BN ρ e v1) (h2 : BN ρ e v2) : v1 = v2 := h1.deterministic h2

/-- **adequacy** (any heap satisfying the invariant, any delayed expression that is still unevaluated) -/
theorem by_name_adequacy {ρ e tv} (hbn : BN ρ e tv) (G : Ghost) (s : Store) (w : World) (t : TId)
    (inv : Inv G s) (hex : (s.cells.get? t).isSome) (he : (s.getCell t).expr = e) (hρ : G.cellEnv t = ρ)
    (hnone : (s.getCell t).value = none) :
    ∃ (G' : Ghost) (s' : Store) (v : Val) (h : Nat),
      Eval s w (.frame t) h (.ok (.arg (.strict v))) s' w ∧ Inv G' s' ∧ Ext G s G' s' ∧ RVal G' s' v tv :=
  adequacy hbn G s w t inv hex he hρ hnone

theorem invariant_initially : Inv ghost0 initStore := inv_init

/-- **closed programs**: if call by name gives the program expression `e` the integer `n` (in the empty environment), then the
evaluator, started on the freshly delayed program in the initial store, evaluates it to `n` -/
theorem by_name_program (e : AST) (n : Int) (w : World) (hbn : BN (.mk [] []) e (.int n)) :
    ∃ (h : Nat) (s' : Store), Eval (alloc initStore e ⟨[], []⟩) w (.frame initStore.cells.size) h
        (.ok (.arg (.strict (.int n)))) s' w := by
  obtain ⟨h, _, s', ev, _⟩ := adequacy_anywhere inv_init w hbn
  exact ⟨h, s', ev⟩

/-- the micro-step machine (`interpret.evaluate`), run on the head coroutine "evaluate the program expression", reproduces every
big-step evaluation of the program in the empty world `w0` that ends with a value and whose height fits under `MAX_STACK_SIZE` -/
theorem machine_of_eval {e : AST} {v : Val} {h : Nat} {s' : Store}
    (ev : Eval (alloc initStore e ⟨[], []⟩) NatSemP.w0 (.frame initStore.cells.size) h (.ok (.arg (.strict v))) s' NatSemP.w0)
    (hh : h < maxStackSize) :
    ∃ k, (runN k (initState (NatSemP.forceProg e).1 NatSemP.w0 (NatSemP.forceProg e).2)).status = .done (.ok (.arg (.strict v))) := by
  have hnone : ((alloc initStore e ⟨[], []⟩).getCell initStore.cells.size).value = none := by rw [getCell_alloc_new]
  have hev : Eval (NatSemP.forceProg e).1 NatSemP.w0 (.comp (NatSemP.forceProg e).2) h (.ok (.arg (.strict v))) s' NatSemP.w0 :=
    (EvalTo.forceEval none hnone ev).toEval fun v => .arg (.strict v)
  obtain ⟨k, hk, _, _⟩ := hev.run_head hh
  exact ⟨k, hk⟩

/-- there is a height `h` such that, if `h < maxStackSize`, the machine returns the by-name value.  As stated, `h` is not tied to
an evaluation (any `h ≥ maxStackSize` satisfies it); the content is `machine_of_eval` at the evaluation `by_name_program` provides -/
theorem machine_computes_by_name (e : AST) (n : Int) (hbn : BN (.mk [] []) e (.int n)) :
    ∃ h : Nat, h < maxStackSize →
      ∃ k, (runN k (initState (NatSemP.forceProg e).1 NatSemP.w0 (NatSemP.forceProg e).2)).status
        = .done (.ok (.arg (.strict (.int n)))) := by
  obtain ⟨h, s', ev⟩ := by_name_program e n NatSemP.w0 hbn
  exact ⟨h, machine_of_eval ev⟩

theorem bn_argAt {fs frame} (i : Nat) {e' ρ' v sp sp'} (hx : frame[i]? = some (e', ρ')) (hv : BN ρ' e' v) :
    BN (.mk fs [frame]) (.argRef (.lit i sp') 0 sp) v := by
  have hi := (List.getElem?_eq_some_iff.1 hx).1
  exact BN.argRef (frame := frame) (i := i) rfl BN.lit ⟨by omega, by omega⟩ (by simpa using hx) hv

/-- the reference semantics is not vacuous: `(λx. x) 5` has the by-name value 5 … -/
theorem bn_identity_application : BN (.mk [] []) NatSemP.progId (.int 5) :=
  BN.call rfl BN.funDef (bn_argAt 0 rfl BN.lit)

/-- … hence (adequacy) the evaluator computes 5 -/
theorem evaluator_identity_application (w : World) :
    ∃ (h : Nat) (s' : Store), Eval (alloc initStore NatSemP.progId ⟨[], []⟩) w (.frame initStore.cells.size) h
        (.ok (.arg (.strict (.int 5)))) s' w := by_name_program _ _ w bn_identity_application

/-! ### a recursive program, for every argument

`NatSemP.countdown n` is `f(n)` with `f(k) = (k = 0)(0, f(k + (−1)))`: recursion through a function reference, a Boolean
selecting between the result and the recursive call, ㄴ and ㄷ on integers. -/

/-- the body of `f` -/
def loopBody : AST :=
  .call (.call (.lit 1 NatSemP.sp0) [.argRef (.lit 0 NatSemP.sp0) 0 NatSemP.sp0, .lit 0 NatSemP.sp0] NatSemP.sp0)
    [.lit 0 NatSemP.sp0, .call (.funRef 0 NatSemP.sp0)
      [.call (.lit 2 NatSemP.sp0) [.argRef (.lit 0 NatSemP.sp0) 0 NatSemP.sp0, .lit (-1) NatSemP.sp0] NatSemP.sp0] NatSemP.sp0] NatSemP.sp0

/-- a test of an integer against 0 selecting between two expressions — the conditional of all three programs below -/
theorem bn_if_zero {ρ c x y k v sp1 sp2 sp3 sp4} (hc : BN ρ c (.int k)) (hv : BN ρ (if k = 0 then x else y) v) :
    BN ρ (.call (.call (.lit 1 sp1) [c, .lit 0 sp2] sp3) [x, y] sp4) v := by
  -- here and below `by decide +kernel` checks that the literal spells the built-in: 1 is ㄴ, 2 is ㄷ, −33 is ㄴㅁ, −28 is ㅁㄹ
  refine BN.sel (b := k == 0) rfl (BN.eqInt (by decide +kernel) hc BN.lit) ?_
  simpa using hv

/-- the decrement `c + (−1)` of the two counting programs -/
theorem bn_pred {ρ c} {k : Nat} {sp1 sp2 sp3} (hc : BN ρ c (.int ((k + 1 : Nat) : Int))) :
    BN ρ (.call (.lit 2 sp1) [c, .lit (-1) sp2] sp3) (.int (k : Int)) := by
  have h := BN.addInt (n := 2) (spf := sp1) (sp := sp3) (by decide +kernel) hc (BN.lit (n := -1) (sp := sp2))
  rwa [show (((k + 1 : Nat) : Int) + -1) = (k : Int) by omega] at h

/-- in the environment of a call of `f` whose argument expression has the value `k`, the body has the value 0 -/
theorem bn_loop (k : Nat) {a : AST} {ρa : TEnv} (ha : BN ρa a (.int k)) :
    BN (.mk [(loopBody, .mk [] [])] [[(a, ρa)]]) loopBody (.int 0) := by
  induction k generalizing a ρa with
  | zero => exact bn_if_zero (bn_argAt 0 rfl ha) BN.lit
  | succ k ih =>
    refine bn_if_zero (bn_argAt 0 rfl ha) ?_
    rw [if_neg (by omega)]
    exact BN.call (b := loopBody) (ρd := .mk [] []) rfl (BN.funRef rfl) (ih (bn_pred (bn_argAt 0 rfl ha)))

/-- **for every natural number `n`**, the by-name value of `countdown n` is 0 -/
theorem bn_countdown (n : Nat) : BN (.mk [] []) (NatSemP.countdown n) (.int 0) :=
  BN.call (b := loopBody) (ρd := .mk [] []) rfl BN.funDef (bn_loop n BN.lit)

/-- … hence **the evaluator computes 0 for every `n`** — a statement about unboundedly many programs and
unboundedly long evaluations, each with its memo cells, requestor chains and tail returns -/
theorem evaluator_countdown (n : Nat) (w : World) :
    ∃ (h : Nat) (s' : Store), Eval (alloc initStore (NatSemP.countdown n) ⟨[], []⟩) w (.frame initStore.cells.size) h
        (.ok (.arg (.strict (.int 0)))) s' w := by_name_program _ _ w (bn_countdown n)

/-! ### a non-tail recursion, for every argument: `s(k) = (k = 0)(0, k + s(k + (−1)))` -/

def sumBody : AST :=
  .call (.call (.lit 1 NatSemP.sp0) [.argRef (.lit 0 NatSemP.sp0) 0 NatSemP.sp0, .lit 0 NatSemP.sp0] NatSemP.sp0)
    [.lit 0 NatSemP.sp0,
     .call (.lit 2 NatSemP.sp0) [.argRef (.lit 0 NatSemP.sp0) 0 NatSemP.sp0,
       .call (.funRef 0 NatSemP.sp0)
         [.call (.lit 2 NatSemP.sp0) [.argRef (.lit 0 NatSemP.sp0) 0 NatSemP.sp0, .lit (-1) NatSemP.sp0] NatSemP.sp0] NatSemP.sp0] NatSemP.sp0]
    NatSemP.sp0

def sumProg (n : Int) : AST := .call (.funDef sumBody NatSemP.sp0) [.lit n NatSemP.sp0] NatSemP.sp0

/-- 0 + 1 + … + k -/
def tri : Nat → Int
  | 0 => 0
  | k + 1 => ((k + 1 : Nat) : Int) + tri k

theorem bn_sum_loop (k : Nat) {a : AST} {ρa : TEnv} (ha : BN ρa a (.int k)) :
    BN (.mk [(sumBody, .mk [] [])] [[(a, ρa)]]) sumBody (.int (tri k)) := by
  induction k generalizing a ρa with
  | zero => exact bn_if_zero (bn_argAt 0 rfl ha) BN.lit
  | succ k ih =>
    refine bn_if_zero (bn_argAt 0 rfl ha) ?_
    rw [if_neg (by omega)]
    exact BN.addInt (by decide +kernel) (bn_argAt 0 rfl ha)
      (BN.call (b := sumBody) (ρd := .mk [] []) rfl (BN.funRef rfl) (ih (bn_pred (bn_argAt 0 rfl ha))))

/-- **for every natural number `n`** the by-name value of the summation program is 0 + 1 + … + n — a recursion that is
*not* a tail call (the pending addition) … -/
theorem bn_sum (n : Nat) : BN (.mk [] []) (sumProg n) (.int (tri n)) :=
  BN.call (b := sumBody) (ρd := .mk [] []) rfl BN.funDef (bn_sum_loop n BN.lit)

/-- … and so is what the evaluator computes, for every `n` -/
theorem evaluator_sum (n : Nat) (w : World) :
    ∃ (h : Nat) (s' : Store), Eval (alloc initStore (sumProg n) ⟨[], []⟩) w (.frame initStore.cells.size) h
        (.ok (.arg (.strict (.int (tri n))))) s' w := by_name_program _ _ w (bn_sum n)

theorem tri_closed_form (n : Nat) : 2 * tri n = (n : Int) * ((n : Int) + 1) := by
  induction n with
  | zero => rfl
  | succ k ih =>
    have e : ((k + 1 : Nat) : Int) = (k : Int) + 1 := by omega
    -- 2 (k + 1) + k (k + 1) = (2 + k) (k + 1)
    rw [tri, Int.mul_add, ih, e, ← Int.add_mul, Int.mul_comm]
    congr 1
    omega

/-! ### Euclid's algorithm, for every pair of natural numbers

`gcdProg a b` is `g(a, b)` with `g(x, y) = (y = 0)(x, g(y, x ㄴㅁ y))`: a two-parameter tail recursion through a function reference,
with the remainder built-in. -/

def gcdBody : AST :=
  .call (.call (.lit 1 NatSemP.sp0) [.argRef (.lit 1 NatSemP.sp0) 0 NatSemP.sp0, .lit 0 NatSemP.sp0] NatSemP.sp0)
    [.argRef (.lit 0 NatSemP.sp0) 0 NatSemP.sp0,
     .call (.funRef 0 NatSemP.sp0)
       [.argRef (.lit 1 NatSemP.sp0) 0 NatSemP.sp0,
        .call (.lit (-33) NatSemP.sp0) [.argRef (.lit 0 NatSemP.sp0) 0 NatSemP.sp0, .argRef (.lit 1 NatSemP.sp0) 0 NatSemP.sp0] NatSemP.sp0]
       NatSemP.sp0]
    NatSemP.sp0

def gcdProg (a b : Int) : AST := .call (.funDef gcdBody NatSemP.sp0) [.lit a NatSemP.sp0, .lit b NatSemP.sp0] NatSemP.sp0

theorem gcd_step (a b : Nat) : Nat.gcd a b = Nat.gcd b (a % b) := by
  rw [Nat.gcd_comm a b, Nat.gcd_rec b a, Nat.gcd_comm]

/-- in the environment of a call of `g` whose argument expressions have the values `a` and `b`, the body has the value gcd a b -/
theorem bn_gcd_loop (b a : Nat) {ea eb : AST} {ρa ρb : TEnv} (ha : BN ρa ea (.int a)) (hb : BN ρb eb (.int b)) :
    BN (.mk [(gcdBody, .mk [] [])] [[(ea, ρa), (eb, ρb)]]) gcdBody (.int (Nat.gcd a b)) := by
  induction b using Nat.strongRecOn generalizing a ea eb ρa ρb with
  | ind b ih =>
    have harg0 : BN (.mk [(gcdBody, .mk [] [])] [[(ea, ρa), (eb, ρb)]]) (.argRef (.lit 0 NatSemP.sp0) 0 NatSemP.sp0) (.int a) :=
      bn_argAt 0 rfl ha
    have harg1 : BN (.mk [(gcdBody, .mk [] [])] [[(ea, ρa), (eb, ρb)]]) (.argRef (.lit 1 NatSemP.sp0) 0 NatSemP.sp0) (.int b) :=
      bn_argAt 1 rfl hb
    refine bn_if_zero harg1 ?_
    cases b with
    | zero => rw [Nat.gcd_zero_right]; exact harg0
    | succ k =>
      rw [if_neg (by omega)]
      have hrem := BN.remInt (n := -33) (spf := NatSemP.sp0) (sp := NatSemP.sp0) (by decide +kernel) harg0 harg1 (by omega)
      rw [← Int.ofNat_tmod] at hrem
      rw [gcd_step a (k + 1)]
      exact BN.call (b := gcdBody) (ρd := .mk [] []) rfl (BN.funRef rfl)
        (ih (a % (k + 1)) (Nat.mod_lt _ (Nat.succ_pos k)) (k + 1) harg1 hrem)

/-- **for all natural numbers `a`, `b`**, the by-name value of `gcdProg a b` is their greatest common divisor -/
theorem bn_gcd (a b : Nat) : BN (.mk [] []) (gcdProg a b) (.int (Nat.gcd a b)) :=
  BN.call (b := gcdBody) (ρd := .mk [] []) rfl BN.funDef (bn_gcd_loop b a BN.lit BN.lit)

/-- … hence **the evaluator computes gcd a b for every pair** -/
theorem evaluator_gcd (a b : Nat) (w : World) :
    ∃ (h : Nat) (s' : Store), Eval (alloc initStore (gcdProg a b) ⟨[], []⟩) w (.frame initStore.cells.size) h
        (.ok (.arg (.strict (.int (Nat.gcd a b))))) s' w := by_name_program _ _ w (bn_gcd a b)

/-! ### C03 in the reference semantics: what is not needed does not matter -/

/-- the branch a Boolean does not select is irrelevant: replacing it by *any* expression — one that raises, diverges or is
ill-scoped — leaves the by-name value unchanged … -/
theorem unselected_branch_irrelevant {ρ f x y sp v} (y' : AST) (hf : tagOf f = none) (hc : BN ρ f (.bool true))
    (h : BN ρ (.call f [x, y] sp) v) : BN ρ (.call f [x, y'] sp) v :=
  BN.sel hf hc (show BN ρ x v from BN.sel_inv hf hc h)

theorem unselected_branch_irrelevant' {ρ f x y sp v} (x' : AST) (hf : tagOf f = none) (hc : BN ρ f (.bool false))
    (h : BN ρ (.call f [x, y] sp) v) : BN ρ (.call f [x', y] sp) v :=
  BN.sel hf hc (show BN ρ y v from BN.sel_inv hf hc h)

/-- … and so does the evaluator's result (adequacy): the two closed programs evaluate to the same integer, whatever the
unselected branch is -/
theorem evaluator_ignores_unselected_branch (f x y y' : AST) (sp : Span) (n : Int) (w : World) (hf : tagOf f = none)
    (hc : BN (.mk [] []) f (.bool true)) (h : BN (.mk [] []) (.call f [x, y] sp) (.int n)) :
    ∃ (hh : Nat) (s' : Store), Eval (alloc initStore (.call f [x, y'] sp) ⟨[], []⟩) w (.frame initStore.cells.size) hh
        (.ok (.arg (.strict (.int n)))) s' w :=
  by_name_program _ _ w (unselected_branch_irrelevant y' hf hc h)

/-- an argument a function never refers to is irrelevant: a call of a closure whose body has a by-name value in an
environment that does not look at the argument tuple's contents — here the simplest instance, a body that is a literal -/
theorem unused_argument_irrelevant {ρ f sp b ρd n spn} (args args' : List AST) (hf : tagOf f = none)
    (hc : BN ρ f (.clo b ρd)) (hb : b = .lit n spn) (_h : BN ρ (.call f args sp) (.int n)) :
    BN ρ (.call f args' sp) (.int n) := by
  subst hb
  exact BN.call hf hc BN.lit

/-- `ㅁㄹ` evaluates none of its arguments: its by-name value is the list of the argument *expressions* -/
theorem list_construction_evaluates_nothing {ρ n spf args sp} (hn : encodeNumber n = [4, 3]) :
    BN ρ (.call (.lit n spf) args sp) (.list (args.map (fun a => (a, ρ)))) := BN.mkList hn

/-- selecting from a list literal evaluates the selected element expression only: for a position `i` inside the list, the
value of `i (e₀ … eₖ ㅁㄹ) ㅎㄴ` is the by-name value of `eᵢ` (negative positions count from the end) -/
theorem list_selection {ρ n spf args spl a sp i e v} (hn : encodeNumber n = [4, 3])
    (ha : BN ρ a (.int i)) (hidx : pyIndex args i = some e) (hv : BN ρ e v) :
    BN ρ (.call (.call (.lit n spf) args spl) [a] sp) v := by
  refine BN.index (by simp [tagOf]) (BN.mkList hn) ha ?_ hv
  rw [pyIndex_map, hidx]; rfl

/-- **an element that is not selected is irrelevant**: replacing every other element of the list by *any* expressions —
ones that raise, diverge or are ill-scoped — leaves the by-name value of the selection unchanged, as long as the selected
position still holds the same expression -/
theorem unselected_elements_irrelevant {ρ n spf args args' spl a sp i e v} (hn : encodeNumber n = [4, 3])
    (ha : BN ρ a (.int i)) (hidx : pyIndex args i = some e) (hidx' : pyIndex args' i = some e)
    (h : BN ρ (.call (.call (.lit n spf) args spl) [a] sp) v) :
    BN ρ (.call (.call (.lit n spf) args' spl) [a] sp) v :=
  list_selection hn ha hidx' (BN.index_inv rfl (BN.mkList hn) ha (by rw [pyIndex_map, hidx]; rfl) h)

/-- **the length of a list literal is its number of element expressions — whatever they are**: `(e₀ … eₖ ㅁㄹ) ㅈㄷ` has the by-name
value k + 1 for *every* choice of the `eᵢ` (raising, diverging, ill-scoped: none of them is evaluated) … -/
theorem length_ignores_elements {ρ nl spl nm spm args sp sp'} (hl : encodeNumber nl = [7, 2]) (hm : encodeNumber nm = [4, 3]) :
    BN ρ (.call (.lit nl spl) [.call (.lit nm spm) args sp'] sp) (.int args.length) := by
  have := BN.lenList (ρ := ρ) (spf := spl) (sp := sp) hl (BN.mkList (ρ := ρ) (spf := spm) (args := args) (sp := sp') hm)
  simpa using this

/-- … and the evaluator computes exactly that, for every list of element expressions (adequacy) -/
theorem evaluator_length_of_any_list (nl : Int) (spl : Span) (nm : Int) (spm : Span) (args : List AST) (sp sp' : Span) (w : World)
    (hl : encodeNumber nl = [7, 2]) (hm : encodeNumber nm = [4, 3]) :
    ∃ (hh : Nat) (s' : Store), Eval (alloc initStore (.call (.lit nl spl) [.call (.lit nm spm) args sp'] sp) ⟨[], []⟩) w
        (.frame initStore.cells.size) hh (.ok (.arg (.strict (.int args.length)))) s' w :=
  by_name_program _ _ w (length_ignores_elements hl hm)

/-- the evaluator ignores the unselected elements too (`unselected_elements_irrelevant` through adequacy): both closed programs
evaluate to the same integer -/
theorem evaluator_ignores_unselected_elements (n : Int) (spf : Span) (args args' : List AST) (spl : Span) (a : AST) (sp : Span)
    (i : Int) (e : AST) (m : Int) (w : World) (hn : encodeNumber n = [4, 3])
    (ha : BN (.mk [] []) a (.int i)) (hidx : pyIndex args i = some e) (hidx' : pyIndex args' i = some e)
    (h : BN (.mk [] []) (.call (.call (.lit n spf) args spl) [a] sp) (.int m)) :
    ∃ (hh : Nat) (s' : Store), Eval (alloc initStore (.call (.call (.lit n spf) args' spl) [a] sp) ⟨[], []⟩) w
        (.frame initStore.cells.size) hh (.ok (.arg (.strict (.int m)))) s' w :=
  by_name_program _ _ w (unselected_elements_irrelevant hn ha hidx hidx' h)

/-- a closed instance: `ㄴ (<bomb> ㄷ ㅁㄹㅎㄷ) ㅎㄴ` — element 1 of a list whose element 0 cannot be evaluated at all — is 2
for the evaluator (by adequacy, from the reference semantics) -/
example (w : World) :
    ∃ (hh : Nat) (s' : Store), Eval (alloc initStore (.call (.call (.lit (-28) ⟨0, 0, 0⟩) [.bomb, .lit 2 ⟨0, 0, 0⟩] ⟨0, 0, 0⟩)
        [.lit 1 ⟨0, 0, 0⟩] ⟨0, 0, 0⟩) ⟨[], []⟩) w (.frame initStore.cells.size) hh (.ok (.arg (.strict (.int 2)))) s' w :=
  by_name_program _ _ w (list_selection (e := .lit 2 ⟨0, 0, 0⟩) (by decide +kernel) BN.lit rfl BN.lit)

/-- whatever the executable by-name evaluator (`Model/ByNameEval.lean`, driver command `bn`) returns is a value of the
reference semantics -/
theorem reference_evaluator_sound (fuel : Nat) (ρ : TEnv) (e : AST) (v : TVal) (h : bnEval fuel ρ e = some v) : BN ρ e v :=
  bnEval_sound fuel ρ e v h

/-- … hence, for a closed program, the value (an integer) the evaluator computes -/
theorem reference_evaluator_program (fuel : Nat) (e : AST) (n : Int) (w : World)
    (h : bnEval fuel (.mk [] []) e = some (.int n)) :
    ∃ (hh : Nat) (s' : Store), Eval (alloc initStore e ⟨[], []⟩) w (.frame initStore.cells.size) hh
        (.ok (.arg (.strict (.int n)))) s' w := by_name_program e n w (bnEval_sound fuel _ _ _ h)

/-- … and it is **complete**: every value of the reference semantics is returned from some fuel on — the executable evaluator
the correspondence runs next to the implementation *is* the reference semantics -/
theorem reference_evaluator_complete {ρ : TEnv} {e : AST} {v : TVal} (h : BN ρ e v) :
    ∃ k0, ∀ k, k0 ≤ k → bnEval k ρ e = some v := bnEval_complete h

theorem reference_evaluator_iff (ρ : TEnv) (e : AST) (v : TVal) : BN ρ e v ↔ ∃ k, bnEval k ρ e = some v :=
  ⟨fun h => Eventually.exists (bnEval_complete h), fun ⟨k, hk⟩ => bnEval_sound k ρ e v hk⟩

/-- **the two executable models agree**: if the reference evaluator (`bn`) returns the integer `n` for a closed program, the
verified big-step evaluator (`main2`'s `evalF`) run on the freshly delayed program returns `n` too, for some fuel bound (hence
for every larger one: `evalF_complete_eventually`) — the correspondence compares the implementation with both, and they cannot
disagree with each other -/
theorem reference_and_bigstep_evaluators_agree (k : Nat) (e : AST) (n : Int) (w : World)
    (h : bnEval k (.mk [] []) e = some (.int n)) :
    ∃ (fuel height : Nat) (s' : Store),
      evalF fuel (alloc initStore e ⟨[], []⟩) w (.frame initStore.cells.size) = .ok ⟨.ok (.arg (.strict (.int n))), s', w, height⟩ := by
  obtain ⟨hh, s', ev⟩ := reference_evaluator_program k e n w h
  obtain ⟨fuel, h', hf, _⟩ := evalF_complete ev
  exact ⟨fuel, h', s', hf⟩

end UH.ByNameP
