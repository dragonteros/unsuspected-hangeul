/-
C05 — tail calls use constant stack; deep recursion fails only by the explicit limit.

Generic in the coroutines (whatever the built-ins do): a frame that finishes with a delayed
expression is *replaced* (same height), and calling a closure / a Boolean finishes with exactly such a
delayed expression (C02), so a call whose result is directly another call never grows the stack.
The host stack (recursive `CacheBox.resolve`, nested generators) is outside the model: it is
exercised by the correspondence ladder (harness/uh/props/c05.py).
-/
import UH.Proofs.MachineInv
import UH.Properties.C02
import UH.Properties.Tables
namespace UH.C05
open UH

/-- **tail return**: when the top frame's coroutine returns a delayed expression `t'`, the next
state has the same stack below and a fresh top frame for `t'` — the height is unchanged -/
theorem tail_return_replaces_frame (m : MState) (f : Frame) (rest : List Frame) (t' : TId) (lit : Option Int)
    (hs : m.status = .running) (ht : m.tail = f :: rest) (hr : m.resp = none)
    (hk : f.konts = []) (hc : f.cur = .ret (.arg (.thunk t' lit))) :
    ∃ fr, (step m).tail = fr :: rest ∧ fr.box = some t' ∧ (step m).status = .running := by
  unfold step
  simp only [hs, ht, hr, hc, hk]
  exact ⟨_, rfl, rfl, rfl⟩

theorem tail_return_keeps_height (m : MState) (f : Frame) (rest : List Frame) (t' : TId) (lit : Option Int)
    (hs : m.status = .running) (ht : m.tail = f :: rest) (hr : m.resp = none)
    (hk : f.konts = []) (hc : f.cur = .ret (.arg (.thunk t' lit))) :
    (step m).tail.length = m.tail.length := by
  obtain ⟨fr, h, _⟩ := tail_return_replaces_frame m f rest t' lit hs ht hr hk hc
  rw [h, ht]; rfl

/-- the continuation with which a closure call delays its body (`C02.apply_closure`) returns the new delayed expression:
a tail return.  The statement only exhibits that continuation (`∃ k, X k = X k₀`); `applyCallee` does not occur in it -/
theorem closure_call_returns_delayed (body : AST) (env : Env) (args : List Arg) :
    ∃ k, (Comp.newThunk body ⟨env.funs, env.args ++ [args]⟩ k : Comp Arg) =
      Comp.newThunk body ⟨env.funs, env.args ++ [args]⟩ (fun t =>
        Comp.ret (.thunk t (match body with | .lit n _ => some n | _ => none))) := ⟨_, rfl⟩

/-- a Boolean call returns the selected argument itself, still delayed: a tail return -/
theorem bool_call_returns_argument (b : Bool) (sp : Span) (x y : Arg) :
    applyCallee (.bool b) sp [x, y] = Comp.ret (if b then x else y) := C02.apply_bool b sp x y

/-- **the stack never exceeds the limit**: in every state reachable from an initial state, while the
evaluator is running its stack has fewer than `MAX_STACK_SIZE` frames -/
theorem height_below_limit (n : Nat) (store : Store) (w : World) (c : Comp Res) :
    (runN n (initState store w c)).status = .running →
      (runN n (initState store w c)).tail.length < maxStackSize :=
  (MachineInv.runN n _ (MachineInv.init store w c)).height

/-- the limit of the model is the implementation's `MAX_STACK_SIZE` (regenerated from the source) -/
theorem limit_is_5000 : maxStackSize = 5000 ∧ maxStackSize = Generated.maxStackSize :=
  ⟨rfl, Tables.maxStackSize_match⟩

/-- the five statuses of the machine: running, a value or a language exception, the stack-limit report, or (for inputs
outside the modelled language) one of the two model markers — there is no other way for a state to be; that the limit
report occurs only on a step that pushes a frame is `limit_only_on_push` -/
theorem run_outcomes (m : MState) :
    m.status = .running ∨ (∃ r, m.status = .done r) ∨ m.status = .limit ∨ m.status = .bottom ∨
      (∃ w, m.status = .unmodelled w) := by
  cases h : m.status with
  | running => exact Or.inl rfl
  | done r => exact Or.inr (Or.inl ⟨r, rfl⟩)
  | limit => exact Or.inr (Or.inr (Or.inl rfl))
  | bottom => exact Or.inr (Or.inr (Or.inr (Or.inl rfl)))
  | unmodelled w => exact Or.inr (Or.inr (Or.inr (Or.inr ⟨w, rfl⟩)))

theorem limit_only_on_push (m : MState) (hd : DepthInv m) (hs : m.status = .running)
    (hl : (step m).status = .limit) : (step m).tail.length = m.tail.length + 1 := by
  match step_kind m hs with
  | .stay (hnl := hnl) .. => exact absurd hl hnl
  | .push (ht := ht) .. => exact ht
  | .replace (hst := hst) .. => rw [hst, hs] at hl; cases hl
  | .pop (hm := hm) .. => rw [hm] at hl; cases hs.symm.trans hl  -- `finishFrame` leaves the status alone

end UH.C05
