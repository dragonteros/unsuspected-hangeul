/-
C10 — throw / try deliver the raised exception intact through every strict position.
-/
import UH.Properties.C04
import UH.Properties.C13
namespace UH.C10
open UH Comp

/-- **ㄷㅈ raises the given exception value** (locations and contents as given) -/
theorem throw_raises (sp : Span) (metas : List Span) (vals : List Val) :
    bThrow sp [.strict (.err metas vals)] = Comp.throw ⟨metas, vals⟩ := rfl

/-- ㄷㅈ of anything else is a type exception -/
theorem throw_non_exception (sp : Span) (v : Val) (h : v.isErr = false) :
    bThrow sp [.strict v] = Comp.throw (builtinErr .type sp) := by
  simp [bThrow, h, typeErr]

/-- **ㄷㅂ builds an exception whose contents are the evaluated arguments, in order, located at
the constructing call** -/
theorem exception_contents (sp : Span) (vs : List Val) :
    bException sp (vs.map Arg.strict) = ret (.strict (.err [sp] vs)) := by
  simp [bException, retV]

/-- **ㅅㄷ, normal path**: the result is the deep-forced first argument (`recursive_strict`) -/
theorem try_value (sp : Span) (body handler : Arg) (a : Arg) :
    (match bTry isBuiltinName sp [body, handler] with
     | .call (.recStrict b) k _ => some (b, k (.arg a))
     | _ => none) = some (body, ret a) := by
  rw [C04.try_catches]

/-- **ㅅㄷ, exceptional path**: the handler is called with the very exception that was raised —
same locations, same contents — whether user-made or produced by a built-in -/
theorem try_handler (sp : Span) (body handler : Arg) (e : ErrV) (f : Val)
    (hf : strictFunctional sp handler = ret f) (hc : checkCallee isBuiltinName sp f false = ret ()) :
    (match bTry isBuiltinName sp [body, handler] with
     | .call _ _ ke => ke e
     | c => c) = callArg (.apply f sp [.strict (.err e.metas e.vals)]) :=
  C04.try_handler_gets_exception sp body handler e f hf hc

/-- built-in failures begin with the marker 5 and their class code -/
theorem builtin_exception_prefix (c : ErrClass) (sp : Span) (extra : List Int) :
    ∃ rest, (builtinErr c sp extra).vals = Val.int 5 :: Val.int c.code :: rest :=
  ⟨_, (C04.builtinErr_shape c sp extra).2⟩

/-- **strict positions propagate**: an operand is forced with the exception continuation `throw`,
and `bind` passes an exception through whatever follows -/
theorem force_propagates (t : TId) (l : Option Int) : forceArg (.thunk t l) = force t ret Comp.throw := rfl

theorem bind_propagates {α β} (e : ErrV) (f : α → Comp β) : (Comp.throw e : Comp α) >>= f = Comp.throw e :=
  throw_bind e f

theorem forceAll_propagates (t : TId) (l : Option Int) (rest : List Arg) (e : ErrV) :
    (match forceAll (.thunk t l :: rest) with
     | .force _ _ ke => ke e
     | c => c) = Comp.throw e := rfl

/-- in the evaluator: an exception delivered to a frame that has no handler pending becomes that
frame's outcome and is handed to the frame below (that it is also stored in the frame's cell is
`C13.finish_fills_chain`); at the top level the run ends with it (`exception_reaches_top`) -/
theorem exception_leaves_frame (m : MState) (f : Frame) (rest : List Frame) (e : ErrV)
    (hs : m.status = .running) (ht : m.tail = f :: rest) (hr : m.resp = none)
    (hc : f.cur = .throw e) (hk : f.konts = []) :
    (step m).resp = some (.error e) ∧ (step m).tail = rest := by
  unfold step
  simp [hs, ht, hr, hc, hk, finishFrame]

theorem exception_reaches_top (m : MState) (e : ErrV)
    (hs : m.status = .running) (ht : m.tail = []) (hr : m.resp = none)
    (hc : m.head.cur = .throw e) (hk : m.head.konts = []) :
    (step m).status = .done (.error e) := by
  unfold step
  simp [hs, ht, hr, hc, hk]

/-- **a failed sub-expression fails identically each time its value is needed again** -/
theorem failure_memoised (m : MState) (f : Frame) (rest : List Frame) (t : TId)
    (k : Val → Comp Res) (ke : ErrV → Comp Res) (e : ErrV)
    (hs : m.status = .running) (ht : m.tail = f :: rest) (hr : m.resp = none)
    (hc : f.cur = .force t k ke) (hv : (m.store.getCell t).value = some (.error e)) :
    (step m).tail = { f with cur := ke e } :: rest ∧ (step m).starts = m.starts :=
  let h := C13.force_completed_error m f rest t k ke e hs ht hr hc hv
  ⟨h.1, h.2.1⟩

end UH.C10
