/-
Big-step theorems used by C07 (I/O only on execution, in bind order) and C10 (throw / try deliver the raised
exception through every strict position).  All of them are statements about
`BigStep.Eval`, which the machine realises (`NatSemP.bigstep_sound_comp`, `bigstep_run_head`).
-/
import UH.Proofs.NatSemIO
import UH.Proofs.MonadLaws
import UH.Properties.NatSem
namespace UH.NatSemIOP
open UH BigStep Comp

theorem head_deterministic {s w c h1 h2 r1 r2 s1 s2 w1 w2}
    (e1 : Eval s w (.comp c) h1 r1 s1 w1) (e2 : Eval s w (.comp c) h2 r2 s2 w2)
    (hh1 : h1 < maxStackSize) (hh2 : h2 < maxStackSize) : r1 = r2 ∧ s1 = s2 ∧ w1 = w2 :=
  Eval.head_deterministic e1 e2 hh1 hh2

/-! ### C10 — raising and handling in the big-step semantics -/

/-- **sequencing**: first the coroutine, then the continuation on its result -/
theorem sequencing {s w c h x s1 w1 k r s' w'} (hc : Eval s w (.comp c) h (.ok x) s1 w1)
    (hk : Eval s1 w1 (.comp (k x)) h r s' w') : Eval s w (.comp (c.bind k)) h r s' w' := hc.bind hk

/-- **an exception propagates through every strict position**: if the first part of a coroutine raises `e`, the whole
raises `e` — with the same contents and locations (`e` is the very `ErrV`), whatever would have followed -/
theorem exception_propagates {s w c h e s1 w1} (k : Res → Comp Res) (hc : Eval s w (.comp c) h (.error e) s1 w1) :
    Eval s w (.comp (c.bind k)) h (.error e) s1 w1 := hc.bind_raises k

/-- … in particular through a demand (`yield expr`): a failing delayed expression fails its user -/
theorem exception_through_force {s w h t e s1 w1} (lit : Option Int) (k : Val → Comp Res)
    (hn : (s.getCell t).value = none) (hf : Eval s w (.frame t) h (.error e) s1 w1) :
    Eval s w (.comp ((forceArg (.thunk t lit)).bind k)) h (.error e) s1 w1 :=
  Raises.forceEval lit hn hf k

/-- … and **a failed sub-expression fails identically each time its value is needed again**: the cell holds the
exception, the demand is answered from it in the same store and world -/
theorem failure_shared {s : Store} {w h t e} (lit : Option Int) (k : Val → Comp Res)
    (hv : (s.getCell t).value = some (.error e)) :
    Eval s w (.comp ((forceArg (.thunk t lit)).bind k)) h (.error e) s w := by
  simp only [forceArg, Comp.bind]
  exact .forceErr hv (.throw _ _ _ _)

/-- `try` around a body that does not raise: the handler is not run -/
theorem try_no_raise {s w c h x s1 w1} (hd : ErrV → Comp Res) (hc : Eval s w (.comp c) h (.ok x) s1 w1) :
    Eval s w (.comp (c.tryCatch hd)) h (.ok x) s1 w1 := hc.tryCatch_ok hd

/-- `try` around a body that raises `e`: the handler receives exactly `e` -/
theorem try_raise {s w c h e s1 w1 hd r s' w'} (hc : Eval s w (.comp c) h (.error e) s1 w1)
    (hh : Eval s1 w1 (.comp (hd e)) h r s' w') : Eval s w (.comp (c.tryCatch hd)) h r s' w' :=
  hc.tryCatch_raises hh

/-! ### C07 — executing I/O actions in the big-step semantics -/

theorem io_value_ends (s : Store) (w : World) (h : Nat) (v : Val) (hv : v.isIO = false) :
    Exec s w v h (.strict v) s w := exec_value s w h v hv

theorem io_print (s : Store) (w : World) (h : Nat) (sp : Span) (str : String) :
    Exec s w (.io .print [.strict (.str str)] sp none) h (.strict .nil) s
      { w with stdout := ('\n' :: str.toList.reverse) ++ w.stdout } := exec_print s w h sp str

/-- **ㄹ at end of input** yields the empty value and consumes nothing -/
theorem io_input_eof (s : Store) (w : World) (h : Nat) (sp : Span) (hw : w.stdin = []) :
    Exec s w (.io .input [] sp none) h (.strict .nil) s w := by
  refine exec_step_strict ?_ (exec_value _ _ _ _ rfl)
  simp only [ioCont]
  exact EvalTo.world (by simp [doWorld, hw])

/-- **ㄹ yields one line without its newline** and consumes exactly that line and its newline (if there is one) -/
theorem io_input_line (s : Store) (w : World) (h : Nat) (sp : Span) (hw : w.stdin.isEmpty = false) :
    Exec s w (.io .input [] sp none) h
      (.strict (.str (String.ofList (w.stdin.takeWhile (· != '\n'))))) s
      { w with stdin := (w.stdin.dropWhile (· != '\n')).drop 1 } := by
  refine exec_step_strict ?_ (exec_value _ _ _ _ rfl)
  simp only [ioCont]
  exact EvalTo.world (by simp [doWorld, hw])

theorem io_return (s : Store) (w : World) (h : Nat) (sp : Span) (v : Val) (hv : v.isIO = false) :
    Exec s w (.io .ret [.strict v] sp none) h (.strict v) s w := exec_return s w h sp v hv

/-- **bind order** (`BigStep.exec_bind_cc` for a continuation that is a function) -/
theorem io_bind_order {s w h argv sp io0 f a s1 w1 r s2 w2 rv s3 w3 res s4 w4}
    (hf : f.isFunction = true)
    (h1 : Exec s w io0 h a s1 w1)
    (h2 : Eval s1 w1 (.comp (expand (.apply f sp [a]))) h (.ok (.arg r)) s2 w2)
    (h3 : EvalTo s2 w2 (forceArg r) h rv s3 w3)
    (hio : rv.isIO = true)
    (h4 : Exec s3 w3 rv h res s4 w4) :
    Exec s w (.io .bind argv sp (some (io0, f, none))) h res s4 w4 :=
  exec_bind_cc (checkCallee_of_isFunction sp f hf) h1 h2 h3 hio h4

theorem io_bind_propagates {s w h argv sp io0 f e s1 w1}
    (h1 : Eval s w (.comp (expand (.doIO io0))) h (.error e) s1 w1) :
    Raises s w (doIO (.io .bind argv sp (some (io0, f, none)))) h e s1 w1 := exec_bind_bind_raises h1

/-- **the handler of a three-argument ㄱㄹ**: when executing the first action raises `e`, the handler `rej` is applied
to the exception *value* carrying exactly `e`'s locations and contents, and the action it returns is executed;
the continuation `f` is not applied -/
theorem io_bind_handler {s w h argv sp io0 f rej e s1 w1 r s2 w2 rv s3 w3 res s4 w4}
    (hrej : rej.isFunction = true)
    (h1 : Eval s w (.comp (expand (.doIO io0))) h (.error e) s1 w1)
    (h2 : Eval s1 w1 (.comp (expand (.apply rej sp [.strict (.err e.metas e.vals)]))) h (.ok (.arg r)) s2 w2)
    (h3 : EvalTo s2 w2 (forceArg r) h rv s3 w3)
    (hio : rv.isIO = true)
    (h4 : Exec s3 w3 rv h res s4 w4) :
    Exec s w (.io .bind argv sp (some (io0, f, some rej))) h res s4 w4 := by
  refine exec_step_strict ?_ h4
  intro k r' s' w' hk
  simp only [ioCont, Comp.bind]
  exact .callErr h1 (evalTo_applyIO (checkCallee_of_isFunction sp rej hrej) h2 h3 hio k r' s' w' hk)

/-- executing an action through the machine: `ㅈㄹ` from the top level -/
theorem io_run_print (s : Store) (w : World) (sp : Span) (str : String) :
    ∃ n, (runN n (initState s w (expand (.doIO (.io .print [.strict (.str str)] sp none))))).status
        = .done (.ok (.arg (.strict .nil))) ∧
      (runN n (initState s w (expand (.doIO (.io .print [.strict (.str str)] sp none))))).world
        = { w with stdout := ('\n' :: str.toList.reverse) ++ w.stdout } := by
  obtain ⟨n, h1, _, h3⟩ := (exec_print s w 1 sp str).toEval.run_head (by decide)
  exact ⟨n, h1, h3⟩

/-- two prints in sequence through the loop of `do_IO`: the first string precedes the second in the output
(a closed instance of `exec_step`; the premises of the rules are satisfiable) -/
example (s : Store) (w : World) (sp : Span) :
    ∃ w1 w2, Exec s w (.io .print [.strict (.str "a")] sp none) 1 (.strict .nil) s w1 ∧
      Exec s w1 (.io .print [.strict (.str "b")] sp none) 1 (.strict .nil) s w2 ∧
      w2.stdout = '\n' :: 'b' :: '\n' :: 'a' :: w.stdout :=
  ⟨_, _, exec_print s w 1 sp "a", exec_print s _ 1 sp "b", rfl⟩

/-! ### the monad laws of the I/O actions (C07) -/

/-- **left identity**: whenever evaluating `f v` and executing the action it gives produce a result, executing
`(ㄱㅅ v) ㄱㄹ f` produces the same result, with the same final store and world (and no other: the judgment is deterministic) -/
theorem monad_left_identity {s w h argv sp sp' f v r s2 w2 rv s3 w3 res s4 w4}
    (hcc : checkCallee isBuiltinName sp f false = Comp.ret ())
    (hv : v.isIO = false)
    (h2 : Eval s w (.comp (expand (.apply f sp [.strict v]))) h (.ok (.arg r)) s2 w2)
    (h3 : EvalTo s2 w2 (forceArg r) h rv s3 w3)
    (hio : rv.isIO = true)
    (h4 : Exec s3 w3 rv h res s4 w4) :
    Exec s w (.io .bind argv sp (some (.io .ret [.strict v] sp' none, f, none))) h res s4 w4 :=
  exec_bind_cc hcc (exec_return s w h sp' v hv) h2 h3 hio h4

/-- **right identity**: executing `m ㄱㄹ ㄱㅅ` does what executing `m` does, for every action `m` whose result is not
itself an action and is *completely evaluated* — values without components and lists of completely evaluated values, nested to
any depth `d` (`DeepN d v`): ㄱㅅ's complete evaluation of its argument finds nothing left to evaluate -/
theorem monad_right_identity_deep {s w h argv sp m v s1 w1} (n : Int) (d : Nat)
    (hn : encodeNumber n = [0, 6]) (hv : DeepN d v) (hio : v.isIO = false)
    (h1 : Exec s w m h (.strict v) s1 w1) :
    Exec s w (.io .bind argv sp (some (m, .builtin n, none))) h (.strict v) s1 w1 := by
  have hb : builtinOf n = some bReturn := by simp [builtinOf, hn]
  have hname : isBuiltinName n = true := by simp only [isBuiltinName, hn]; decide
  have hcc : checkCallee isBuiltinName sp (.builtin n) false = Comp.ret () := by simp only [checkCallee, hname, if_true]
  -- `m` yields `v`; applying ㄱㅅ to it gives the action "return `v`" as it stands; executing that yields `v`
  exact exec_bind_cc (rv := .io .ret [.strict v] sp none) hcc h1
    (eval_apply_return_deep s1 w1 h sp n d v hb hv) (EvalTo.ret _ _ _ _) rfl (exec_return s1 w1 h sp v hio)

/-- … in particular (depth 0) for every action `m` whose result has no
components (a number, Boolean, string, byte string, the empty value, a function): the continuation `ㄱㅅ` — named by any
literal that spells ㄱㅅ — evaluates nothing and performs nothing -/
theorem monad_right_identity {s w h argv sp m v s1 w1} (n : Int)
    (hn : encodeNumber n = [0, 6]) (hv : isAtom v = true) (hio : v.isIO = false)
    (h1 : Exec s w m h (.strict v) s1 w1) :
    Exec s w (.io .bind argv sp (some (m, .builtin n, none))) h (.strict v) s1 w1 :=
  monad_right_identity_deep n 0 hn hv hio h1

/-- **sequencing of a left-nested bind**: `(m ㄱㄹ f) ㄱㄹ g` executes `m`, then the action of `f`, then the action of `g` -/
theorem monad_sequencing {s w h argv argv' sp sp' m f g a s1 w1 r s2 w2 rv s3 w3 b s4 w4 r' s5 w5 rv' s6 w6 res s7 w7}
    (hf : checkCallee isBuiltinName sp' f false = Comp.ret ())
    (hg : checkCallee isBuiltinName sp g false = Comp.ret ())
    (h1 : Exec s w m h a s1 w1)
    (h2 : Eval s1 w1 (.comp (expand (.apply f sp' [a]))) h (.ok (.arg r)) s2 w2)
    (h3 : EvalTo s2 w2 (forceArg r) h rv s3 w3) (hio : rv.isIO = true)
    (h4 : Exec s3 w3 rv h b s4 w4)
    (h5 : Eval s4 w4 (.comp (expand (.apply g sp [b]))) h (.ok (.arg r')) s5 w5)
    (h6 : EvalTo s5 w5 (forceArg r') h rv' s6 w6) (hio' : rv'.isIO = true)
    (h7 : Exec s6 w6 rv' h res s7 w7) :
    Exec s w (.io .bind argv sp (some (.io .bind argv' sp' (some (m, f, none)), g, none))) h res s7 w7 :=
  exec_bind_cc hg (exec_bind_cc hf h1 h2 h3 hio h4) h5 h6 hio' h7

/-- closed instances (the premises are satisfiable): `(ㅈㄹ "a") ㄱㄹ ㄱㅅ` writes `a` and a newline and yields the empty value,
exactly as `ㅈㄹ "a"` does; `(ㄱㅅ 7) ㄱㄹ ㄱㅅ` — left and right identity at once — yields 7 and touches nothing -/
example (s : Store) (w : World) (sp : Span) :
    Exec s w (.io .bind [] sp (some (.io .print [.strict (.str "a")] sp none, .builtin (-48), none))) 1 (.strict .nil) s
      { w with stdout := '\n' :: 'a' :: w.stdout } :=
  monad_right_identity (-48) (by decide +kernel) rfl rfl (exec_print s w 1 sp "a")

example (s : Store) (w : World) (sp : Span) :
    Exec s w (.io .bind [] sp (some (.io .ret [.strict (.int 7)] sp none, .builtin (-48), none))) 1 (.strict (.int 7)) s w :=
  monad_right_identity (-48) (by decide +kernel) rfl rfl (exec_return s w 1 sp (.int 7) rfl)

/-- a closed instance with a nested result: `(ㄱㅅ [1, [2]]) ㄱㄹ ㄱㅅ` yields `[1, [2]]` and touches nothing -/
example (s : Store) (w : World) (sp : Span) :
    Exec s w (.io .bind [] sp (some (.io .ret [.strict (.list [.strict (.int 1), .strict (.list [.strict (.int 2)])])] sp none,
      .builtin (-48), none))) 1 (.strict (.list [.strict (.int 1), .strict (.list [.strict (.int 2)])])) s w := by
  refine monad_right_identity_deep (-48) 2 (by decide +kernel) ?_ rfl (exec_return s w 1 sp _ rfl)
  refine Or.inr ⟨[.int 1, .list [.strict (.int 2)]], rfl, ?_⟩
  intro x hx
  simp only [List.mem_cons, List.not_mem_nil, or_false] at hx
  rcases hx with rfl | rfl
  · exact Or.inl rfl
  · exact Or.inr ⟨[.int 2], rfl, fun y hy => by simp only [List.mem_cons, List.not_mem_nil, or_false] at hy; subst hy; rfl⟩

end UH.NatSemIOP
