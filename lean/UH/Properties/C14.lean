/-
C14 — file handles behave as byte files; open modes never destroy data they must keep.

Theorems about the byte-array file specification used by the model (`openData`,
`writeAt`, `truncTo`, `fileOp`); "a handle behaves as this byte file" is the
correspondence on real files (harness/uh/props/c14.py).
Modes: 0 rb, 1 wb, 2 ab, 3 r+b, 4 w+b, 5 a+b.
-/
import UH.Model.World
namespace UH.C14
open UH World

/-- **read-only, read-write-without-reset and append modes never discard existing contents** -/
theorem open_keeps_contents (data : List UInt8) (mode : Nat) (hm : mode = 0 ∨ mode = 2 ∨ mode = 3 ∨ mode = 5) :
    ∃ pos, openData (some data) mode = some (data, pos) := by
  rcases hm with rfl | rfl | rfl | rfl <;> exact ⟨_, rfl⟩

/-- append modes position at the end, the others at 0 -/
theorem open_position (data : List UInt8) :
    openData (some data) 2 = some (data, data.length) ∧ openData (some data) 5 = some (data, data.length) ∧
    openData (some data) 0 = some (data, 0) ∧ openData (some data) 3 = some (data, 0) := ⟨rfl, rfl, rfl, rfl⟩

/-- **write and write-read modes start from an empty file**, whatever was there -/
theorem open_write_empties (existing : Option (List UInt8)) :
    openData existing 1 = some ([], 0) ∧ openData existing 4 = some ([], 0) := ⟨rfl, rfl⟩

/-- modes r and r+ need an existing file; a and a+ create an empty one -/
theorem open_missing :
    openData none 0 = none ∧ openData none 3 = none ∧ openData none 2 = some ([], 0) ∧
    openData none 5 = some ([], 0) := ⟨rfl, rfl, rfl, rfl⟩

/-- `writeAt` without the case split -/
theorem writeAt_eq (data b : List UInt8) (at_ : Nat) :
    writeAt data at_ b =
      (data ++ List.replicate (at_ - data.length) 0).take at_ ++ (b ++ data.drop (at_ + b.length)) := by
  unfold writeAt; dsimp only
  by_cases hgap : at_ > data.length
  · -- the window ends beyond the padded data, and beyond `data`: nothing follows it on either side
    have hpad : (data ++ List.replicate (at_ - data.length) 0).drop (at_ + b.length) = [] :=
      List.drop_of_length_le (by simp; omega)
    have hdata : data.drop (at_ + b.length) = [] := List.drop_of_length_le (by omega)
    rw [if_pos hgap, hpad, hdata, List.append_nil, List.append_nil]
  · have hnopad : at_ - data.length = 0 := by omega
    rw [if_neg hgap, hnopad, List.replicate_zero, List.append_nil, List.append_assoc]

theorem writeAt_prefix_length (data : List UInt8) (at_ : Nat) :
    ((data ++ List.replicate (at_ - data.length) 0).take at_).length = at_ := by
  simp; omega

theorem writeAt_getElem (data b : List UInt8) (at_ i : Nat) :
    (writeAt data at_ b)[i]? =
      if i < at_ then (if i < data.length then data[i]? else some 0)
      else if i < at_ + b.length then b[i - at_]? else data[i]? := by
  have hl := writeAt_prefix_length data at_
  rw [writeAt_eq]
  by_cases hi : i < at_
  · rw [if_pos hi, List.getElem?_append_left (by omega), List.getElem?_take_of_lt hi]  -- in the padded prefix
    split
    next hd => rw [List.getElem?_append_left hd]
    next hd => rw [List.getElem?_append_right (by omega), List.getElem?_replicate, if_pos (by omega)]
  · rw [if_neg hi, List.getElem?_append_right (by omega), hl]                           -- behind it, at `i - at_`
    split
    next hw => rw [List.getElem?_append_left (by omega)]
    next hw => rw [List.getElem?_append_right (by omega), List.getElem?_drop]; congr 1; omega

theorem writeAt_length (data b : List UInt8) (at_ : Nat) :
    (writeAt data at_ b).length = max data.length (at_ + b.length) := by
  rw [writeAt_eq, List.length_append, writeAt_prefix_length, List.length_append, List.length_drop]; omega

/-- **append writes always land at the end**: writing at the end position is concatenation -/
theorem append_lands_at_end (data b : List UInt8) : writeAt data data.length b = data ++ b := by
  simp [writeAt]

/-- the written bytes are read back from the window -/
theorem writeAt_window (data b : List UInt8) (at_ i : Nat) (hi : i < b.length) :
    (writeAt data at_ b)[at_ + i]? = b[i]? := by
  rw [writeAt_getElem, if_neg (by omega), if_pos (by omega), Nat.add_sub_cancel_left]

/-- **every other byte is preserved**: positions before the window keep their byte -/
theorem writeAt_before (data b : List UInt8) (at_ i : Nat) (hi : i < at_) (hd : i < data.length) :
    (writeAt data at_ b)[i]? = data[i]? := by
  rw [writeAt_getElem, if_pos hi, if_pos hd]

/-- positions after the window keep their byte -/
theorem writeAt_after (data b : List UInt8) (at_ i : Nat) (hi : at_ + b.length ≤ i) (hle : at_ ≤ data.length) :
    (writeAt data at_ b)[i]? = data[i]? := by
  rw [writeAt_getElem, if_neg (by omega), if_neg (by omega)]

/-- a gap between the old end and the write position is zero-filled -/
theorem writeAt_gap (data b : List UInt8) (at_ i : Nat) (h1 : data.length ≤ i) (h2 : i < at_) :
    (writeAt data at_ b)[i]? = some 0 := by
  rw [writeAt_getElem, if_pos h2, if_neg (by omega)]

theorem truncTo_length (data : List UInt8) (sz : Nat) : (truncTo data sz).length = sz := by
  unfold truncTo
  split <;> simp <;> omega

theorem truncTo_prefix (data : List UInt8) (sz i : Nat) (hi : i < sz) (hd : i < data.length) :
    (truncTo data sz)[i]? = data[i]? := by
  unfold truncTo
  split
  · rw [List.getElem?_take_of_lt hi]
  · rw [List.getElem?_append_left hd]

def mkWorld (path : String) (data : List UInt8) (mode pos : Nat) (closed : Bool := false) : World :=
  ⟨[], [], [(path, data)], [], #[⟨path, mode, pos, closed⟩], []⟩

/-- **read** returns the bytes from the position (at most `n`) and advances the position by
exactly the number of bytes returned; the contents are unchanged -/
theorem read_spec (path : String) (data : List UInt8) (mode pos : Nat) (n : Nat) (hm : canRead mode = true)
    (hn : (n : Int) < 2 ^ 63) (sp : Span) :
    fileOp (mkWorld path data mode pos) 0 (.fread sp 0 n) =
      .ok (.bytes ((data.drop pos).take n),
        { mkWorld path data mode pos with
          handles := #[⟨path, mode, pos + ((data.drop pos).take n).length, false⟩] }) := by
  have h1 : ¬ ((n : Int) < -1) := by omega
  have h3 : ¬ ((n : Int) = -1) := by omega
  simp [fileOp, mkWorld, getFile, h1, h3, hm]
  omega  -- what is left is the 63-bit range test (with `2 ^ 63` evaluated), from `hn`

/-- `read(−1)` returns everything from the position to the end -/
theorem read_all (path : String) (data : List UInt8) (mode pos : Nat) (hm : canRead mode = true) (sp : Span) :
    fileOp (mkWorld path data mode pos) 0 (.fread sp 0 (-1)) =
      .ok (.bytes (data.drop pos),
        { mkWorld path data mode pos with handles := #[⟨path, mode, pos + (data.drop pos).length, false⟩] }) := by
  simp [fileOp, mkWorld, getFile, hm]

/-- **write** stores the bytes at the position (at the end in append modes), returns their count and
leaves the position just after them -/
theorem write_spec (path : String) (data b : List UInt8) (mode pos : Nat) (hm : canWrite mode = true)
    (hb : b ≠ []) (sp : Span) :
    fileOp (mkWorld path data mode pos) 0 (.fwrite sp 0 b) =
      (let at_ := if isAppend mode then data.length else pos
       .ok (.int b.length,
        { mkWorld path data mode pos with
          files := [(path, writeAt data at_ b)], handles := #[⟨path, mode, at_ + b.length, false⟩] })) := by
  have : b.isEmpty = false := List.isEmpty_eq_false_iff.mpr hb
  simp [fileOp, mkWorld, getFile, setFile, setFile.upd, hm, this]

/-- a zero-length write changes no byte -/
theorem write_empty (path : String) (data : List UInt8) (mode pos : Nat) (hm : canWrite mode = true) (sp : Span) :
    ∃ w', fileOp (mkWorld path data mode pos) 0 (.fwrite sp 0 []) = .ok (.int 0, w') ∧ getFile w' path = some data := by
  refine ⟨_, by simp [fileOp, mkWorld, getFile, hm]; rfl, ?_⟩
  simp [getFile]

/-- **tell / seek**: the position is reported and set exactly; seeking never changes the contents -/
theorem tell_spec (path : String) (data : List UInt8) (mode pos : Nat) (sp : Span) :
    fileOp (mkWorld path data mode pos) 0 (.ftell sp 0) = .ok (.int pos, mkWorld path data mode pos) := by
  simp [fileOp, mkWorld]

theorem seek_set_spec (path : String) (data : List UInt8) (mode pos : Nat) (off : Nat) (hoff : (off : Int) < 2 ^ 63) (sp : Span) :
    fileOp (mkWorld path data mode pos) 0 (.fseek sp 0 off 0) =
      .ok (.int off, { mkWorld path data mode pos with handles := #[⟨path, mode, off, false⟩] }) := by
  have h2 : ¬ ((off : Int) < 0) := by omega
  simp [fileOp, mkWorld, h2]
  omega

theorem seek_cur_spec (path : String) (data : List UInt8) (mode pos : Nat) (off : Int)
    (h0 : 0 ≤ (pos : Int) + off) (hoff : off < 2 ^ 63 ∧ -(2 ^ 63) ≤ off) (sp : Span) :
    fileOp (mkWorld path data mode pos) 0 (.fseek sp 0 off 1) =
      .ok (.int (pos + off), { mkWorld path data mode pos with handles := #[⟨path, mode, ((pos : Int) + off).toNat, false⟩] }) := by
  have h2 : ¬ ((pos : Int) + off < 0) := by omega
  simp [fileOp, mkWorld, h2]
  omega

/-- a negative target is rejected (EINVAL) and nothing changes -/
theorem seek_negative (path : String) (data : List UInt8) (mode pos : Nat) (off : Int)
    (h0 : off < 0) (hoff : -(2 ^ 63) ≤ off) (sp : Span) :
    fileOp (mkWorld path data mode pos) 0 (.fseek sp 0 off 0) = .error (.os 22) := by
  simp [fileOp, mkWorld, h0]
  omega

/-- **truncate** sets the size (cutting or zero-extending), keeps the position -/
theorem truncate_spec (path : String) (data : List UInt8) (mode pos : Nat) (sz : Nat) (hm : canWrite mode = true)
    (hsz : (sz : Int) < 2 ^ 63) (sp : Span) :
    fileOp (mkWorld path data mode pos) 0 (.ftrunc sp 0 (some sz)) =
      .ok (.int sz, { mkWorld path data mode pos with files := [(path, truncTo data sz)] }) := by
  have h2 : ¬ ((sz : Int) < 0) := by omega
  simp [fileOp, mkWorld, getFile, setFile, setFile.upd, hm, h2]
  omega

/-- rejected without any effect: writing in mode rb, reading in mode wb, reading from a closed handle -/
theorem not_permitted (path : String) (data b : List UInt8) (pos : Nat) (sp : Span) :
    fileOp (mkWorld path data 0 pos) 0 (.fwrite sp 0 b) = .error .value ∧
    fileOp (mkWorld path data 1 pos) 0 (.fread sp 0 1) = .error .value ∧
    fileOp (mkWorld path data 3 pos true) 0 (.fread sp 0 1) = .error .value := by
  refine ⟨?_, ?_, ?_⟩ <;> simp [fileOp, mkWorld, canWrite, canRead]

/-- a byte array with a cursor: what a handle is compared with -/
structure BF where
  data : List UInt8
  pos : Nat

inductive BOp where
  | read (n : Nat) | readAll | write (b : List UInt8) | tell
  | seek (off : Nat) | seekCur (off : Int) | trunc (sz : Nat)

/-- what the mode permits, plus the host's 63-bit offset range -/
def BOp.ok (mode : Nat) (s : BF) : BOp → Prop
  | .read n => canRead mode = true ∧ (n : Int) < 2 ^ 63
  | .readAll => canRead mode = true
  | .write b => canWrite mode = true ∧ b ≠ []
  | .tell => True
  | .seek off => (off : Int) < 2 ^ 63
  | .seekCur off => 0 ≤ (s.pos : Int) + off ∧ off < 2 ^ 63 ∧ -(2 ^ 63) ≤ off
  | .trunc sz => canWrite mode = true ∧ (sz : Int) < 2 ^ 63

/-- the specification: one step of a byte array with a cursor -/
def BF.step (mode : Nat) (s : BF) : BOp → Val × BF
  | .read n => (.bytes ((s.data.drop s.pos).take n), ⟨s.data, s.pos + ((s.data.drop s.pos).take n).length⟩)
  | .readAll => (.bytes (s.data.drop s.pos), ⟨s.data, s.pos + (s.data.drop s.pos).length⟩)
  | .write b =>
    let at_ := if isAppend mode then s.data.length else s.pos
    (.int b.length, ⟨writeAt s.data at_ b, at_ + b.length⟩)
  | .tell => (.int s.pos, s)
  | .seek off => (.int off, ⟨s.data, off⟩)
  | .seekCur off => (.int (s.pos + off), ⟨s.data, ((s.pos : Int) + off).toNat⟩)
  | .trunc sz => (.int sz, ⟨truncTo s.data sz, s.pos⟩)

def BOp.toW (sp : Span) : BOp → WOp
  | .read n => .fread sp 0 n
  | .readAll => .fread sp 0 (-1)
  | .write b => .fwrite sp 0 b
  | .tell => .ftell sp 0
  | .seek off => .fseek sp 0 off 0
  | .seekCur off => .fseek sp 0 off 1
  | .trunc sz => .ftrunc sp 0 (some sz)

/-- one permitted operation on the model's world = one step of the byte-file specification -/
theorem step_refines (path : String) (mode : Nat) (s : BF) (op : BOp) (h : op.ok mode s) (sp : Span) :
    fileOp (mkWorld path s.data mode s.pos) 0 (op.toW sp) =
      .ok ((s.step mode op).1, mkWorld path (s.step mode op).2.data mode (s.step mode op).2.pos) := by
  cases op with
  | read n => exact read_spec path s.data mode s.pos n h.1 h.2 sp
  | readAll => exact read_all path s.data mode s.pos h sp
  | write b => exact write_spec path s.data b mode s.pos h.1 h.2 sp
  | tell => exact tell_spec path s.data mode s.pos sp
  | seek off => exact seek_set_spec path s.data mode s.pos off h sp
  | seekCur off => exact seek_cur_spec path s.data mode s.pos off h.1 h.2 sp
  | trunc sz => exact truncate_spec path s.data mode s.pos sz h.1 h.2 sp

def runOps (w : World) : List WOp → Except WErr (List Val × World)
  | [] => .ok ([], w)
  | op :: ops =>
    match fileOp w 0 op with
    | .error e => .error e
    | .ok (v, w') => (runOps w' ops).map (fun (vs, w'') => (v :: vs, w''))

def BF.run (mode : Nat) (s : BF) : List BOp → List Val × BF
  | [] => ([], s)
  | op :: ops => let (v, s') := s.step mode op; let (vs, s'') := BF.run mode s' ops; (v :: vs, s'')

/-- each operation of the history is permitted in the state the specification reaches before it -/
def AllOk (mode : Nat) : BF → List BOp → Prop
  | _, [] => True
  | s, op :: ops => op.ok mode s ∧ AllOk mode (s.step mode op).2 ops

/-- **refinement for every history**: whatever sequence of permitted reads, writes, seeks, tells and truncates is
applied to a handle, the values returned and the resulting contents / position are those of the plain byte
array with a cursor -/
theorem history_refines (path : String) (mode : Nat) (sp : Span) : ∀ (ops : List BOp) (s : BF), AllOk mode s ops →
    runOps (mkWorld path s.data mode s.pos) (ops.map (BOp.toW sp)) =
      .ok ((s.run mode ops).1, mkWorld path (s.run mode ops).2.data mode (s.run mode ops).2.pos) := by
  intro ops
  induction ops with
  | nil => intro s _; rfl
  | cons op ops ih =>
    intro s h
    simp only [List.map_cons, runOps, step_refines path mode s op h.1 sp]
    rw [ih _ h.2]
    rfl

/-- non-vacuity: an append-mode history (write, seek 0, write, seek 1, read all) satisfies the hypothesis -/
example : AllOk 5 ⟨[1, 2], 2⟩ [.write [9], .seek 0, .write [8], .seek 1, .readAll] := by
  simp [AllOk, BOp.ok, canWrite, canRead]

end UH.C14
