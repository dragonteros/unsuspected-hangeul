/-
C16 — byte codecs are inverse and bit-exact for every width, order and signedness.
-/
import UH.Model.Codec
import UH.Proofs.Utf
namespace UH.C16
open UH

theorem natToBytesLE_length (w n : Nat) : (natToBytesLE w n).length = w := by
  induction w generalizing n with
  | zero => rfl
  | succ w ih => simp [natToBytesLE, ih]

theorem bytesToNatLE_natToBytesLE (w n : Nat) : bytesToNatLE (natToBytesLE w n) = n % 256 ^ w :=
  Utf.bytesToNatLE_natToBytesLE w n

/-- the bytes decode (little endian, unsigned) to the value modulo 2^(8w): bit-exact two's complement -/
theorem twos_complement (n : Int) (w : Nat) (b : List UInt8) (big signed : Bool)
    (h : intToBytes n w big signed = some b) :
    bytesToNatLE (if big then b.reverse else b) = (n % (2 ^ (8 * w) : Int)).toNat ∧ b.length = w := by
  unfold intToBytes at h
  by_cases hr : intInRange n w signed = true
  · simp only [hr, if_true, Option.some.injEq] at h
    have hm : (n % (2 ^ (8 * w) : Int)).toNat < 256 ^ w := by
      rw [show (256 : Nat) ^ w = 2 ^ (8 * w) by rw [Nat.pow_mul]]
      have hp : (0 : Int) < 2 ^ (8 * w) := Int.pow_pos (by omega)
      have h1 := Int.emod_lt_of_pos n hp
      have h2 := Int.emod_nonneg n (Int.ne_of_gt hp)
      have : ((2 : Int) ^ (8 * w)) = ((2 ^ (8 * w) : Nat) : Int) := by simp
      omega
    subst h
    have hval : bytesToNatLE (natToBytesLE w (n % 2 ^ (8 * w)).toNat) = (n % 2 ^ (8 * w)).toNat := by
      rw [bytesToNatLE_natToBytesLE, Nat.mod_eq_of_lt hm]
    cases big with
    | false => exact ⟨hval, natToBytesLE_length _ _⟩
    | true =>  -- the big-endian bytes are the little-endian ones reversed, and are reversed back
      simp only [if_true, List.reverse_reverse, List.length_reverse]
      exact ⟨hval, natToBytesLE_length _ _⟩
  · simp [hr] at h

theorem big_is_reverse_little (n : Int) (w : Nat) (signed : Bool) :
    intToBytes n w true signed = (intToBytes n w false signed).map List.reverse := by
  unfold intToBytes
  by_cases hr : intInRange n w signed = true <;> simp [hr]

/-- **range rejection**: a value is encodable iff it lies in the two's-complement (resp. unsigned)
range of the width -/
theorem encodable_iff (n : Int) (w : Nat) (hw : 0 < w) (big signed : Bool) :
    (intToBytes n w big signed).isSome = true ↔
      (if signed then (-(2 ^ (8 * w - 1) : Int) ≤ n ∧ n < (2 ^ (8 * w - 1) : Int))
       else (0 ≤ n ∧ n < (2 ^ (8 * w) : Int))) := by
  unfold intToBytes intInRange
  have hw0 : ¬ (w = 0) := by omega
  simp only [hw0, if_false]
  cases signed <;> simp

theorem emod_of_signed_range (n H : Int) (h1 : -H ≤ n) (h2 : n < H) :
    n % (2 * H) = if 0 ≤ n then n else n + 2 * H := by
  split
  next hn => exact Int.emod_eq_of_lt hn (by omega)
  next => rw [← Int.add_emod_right]; exact Int.emod_eq_of_lt (by omega) (by omega)

/-- **decoding inverts encoding** for every width ≥ 1, order and signedness -/
theorem decode_encode (n : Int) (w : Nat) (hw : 0 < w) (b : List UInt8) (big signed : Bool)
    (h : intToBytes n w big signed = some b) : bytesToInt b big signed = n := by
  obtain ⟨hval, hlen⟩ := twos_complement n w b big signed h
  have hrange := (encodable_iff n w hw big signed).mp (by rw [h]; rfl)
  unfold bytesToInt
  simp only [hval, hlen]
  clear hval hlen h
  cases signed with
  | false =>  -- `0 ≤ n < 2^(8w)`: the residue is `n`
    simp only [Bool.false_eq_true, false_and, if_false] at hrange ⊢
    rw [Int.emod_eq_of_lt hrange.1 hrange.2]; omega
  | true =>
    simp only [true_and, if_true] at hrange ⊢
    -- `2^(8w) = 2·H` with `H = 2^(8w−1)`; the comparison of naturals `… ≥ 2^(8w−1)` is one with `H`
    have hM : (2 : Int) ^ (8 * w) = 2 * 2 ^ (8 * w - 1) := by
      rw [← Int.pow_succ', show 8 * w - 1 + 1 = 8 * w by omega]
    have hcast : ((2 ^ (8 * w - 1) : Nat) : Int) = (2 : Int) ^ (8 * w - 1) := by simp
    rw [hM, emod_of_signed_range n _ hrange.1 hrange.2]
    generalize (2 : Int) ^ (8 * w - 1) = H at *
    by_cases hn : 0 ≤ n
    · -- the residue is `n < H`: read as it stands
      rw [if_pos hn, if_neg (by omega)]; omega
    · -- the residue is `n + 2·H ≥ H`: `2·H` is taken off again
      rw [if_neg hn, if_pos (by omega)]; omega

example : intToBytes (-1) 2 false true = some [255, 255] ∧ intToBytes 258 2 true false = some [1, 2] ∧
    intToBytes 128 1 false true = none ∧ intToBytes (-129) 1 false true = none := by decide +kernel

/-- **decoding inverts encoding** for every string (list of Unicode scalar values): UTF-8; UTF-16 and UTF-32 with
an explicit byte order (no byte-order mark is written, and a leading U+FEFF / U+FFFE is ordinary payload); and
without an explicit order (a little-endian BOM is written, recognised and removed) -/
theorem utf_decode_encode (width : Nat) (order : Option Bool) (s : List Nat) (hs : ∀ c ∈ s, isScalar c = true)
    (b : List UInt8) (h : utfEncode width order s = some b) : utfDecode width order b = some s :=
  Utf.utf_decode_encode width order s hs b h

theorem utf8_decode_encode (s : List Nat) (hs : ∀ c ∈ s, isScalar c = true) : utf8Decode (utf8Encode s) = some s :=
  Utf.utf8_decode_encode s hs
theorem utf16_decode_encode (big : Bool) (s : List Nat) (hs : ∀ c ∈ s, isScalar c = true) :
    utf16Decode big (utf16Encode big s) = some s := Utf.utf16_decode_encode big s hs
theorem utf32_decode_encode (big : Bool) (s : List Nat) (hs : ∀ c ∈ s, isScalar c = true) :
    utf32Decode big (utf32Encode big s) = some s := Utf.utf32_decode_encode big s hs

/-- every width / order combination the module offers does encode (the hypothesis of `utf_decode_encode` is met) -/
theorem utfEncode_total (s : List Nat) :
    (utfEncode 1 none s).isSome ∧ (∀ o, (utfEncode 2 o s).isSome) ∧ (∀ o, (utfEncode 4 o s).isSome) := by
  refine ⟨rfl, ?_, ?_⟩ <;> intro o <;> cases o <;> rfl

-- examples: a leading U+FEFF survives the explicit-order converters; the BOM form removes exactly its own mark;
-- strict decoding rejects surrogates, over-long forms and odd lengths
example : utfDecode 2 (some true) (utf16Encode true [0xFEFF, 0x61]) = some [0xFEFF, 0x61] ∧
    utfDecode 2 (some false) (utf16Encode false [0xFFFE, 0x61]) = some [0xFFFE, 0x61] ∧
    utfDecode 4 (some true) (utf32Encode true [0xFEFF]) = some [0xFEFF] ∧
    (utfEncode 2 none [0xFEFF, 0x1F600]).bind (utfDecode 2 none) = some [0xFEFF, 0x1F600] := by decide +kernel
example : utf8Decode [0xED, 0xA0, 0x80] = none ∧ utf8Decode [0xC0, 0x80] = none ∧ utf8Decode [0xF4, 0x90, 0x80, 0x80] = none ∧
    utf16Decode false [0x00, 0xD8] = none ∧ utf16Decode false [0x61] = none ∧ utf32Decode false [0, 0xD8, 0, 0] = none := by
  decide +kernel

end UH.C16
