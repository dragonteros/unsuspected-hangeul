/-
C08 — the integer literal codec is a bijection up to even zero padding, and the
encoder yields the shortest spelling.  (That lookups by name depend on the value
only rests on the names being canonical spellings: `Tables.*_canonical`, over tables
regenerated from the source.)
-/
import UH.Proofs.Number
import UH.Model.Parse
namespace UH.C08
open UH

/-- the encoder is the natural digits plus at most one padding zero -/
theorem encode_shape (n : Int) :
    ∃ e, e ≤ 1 ∧ encodeNumber n = natDigits n.natAbs ++ List.replicate e (0 : Digit) ∧
      (((natDigits n.natAbs).length + e) % 2 = 0 ↔ n < 0) := by
  by_cases h : ((natDigits n.natAbs).length % 2 = 0 ↔ n < 0)
  · exact ⟨0, Nat.zero_le _, by simp [encodeNumber, h], by simpa using h⟩
  · exact ⟨1, Nat.le_refl _, by simp [encodeNumber, h], by omega⟩

/-- **decoding inverts encoding**, for every integer -/
theorem parse_encode (n : Int) : parseNumber (encodeNumber n) = n := by
  obtain ⟨e, _, he, hs⟩ := encode_shape n
  rw [parseNumber_eq_iff, he, digitsVal_pad, digitsVal_natDigits]
  exact ⟨rfl, fun _ => by simpa using hs⟩

theorem parseNumber_pad (w : List Digit) (k : Nat) (hk : k % 2 = 0) :
    parseNumber (w ++ List.replicate k (0 : Digit)) = parseNumber w := by
  obtain ⟨hval, hpar⟩ := (parseNumber_eq_iff w _).mp rfl
  rw [parseNumber_eq_iff, digitsVal_pad, List.length_append, List.length_replicate]
  exact ⟨hval, fun h0 => by have := hpar h0; omega⟩  -- zeros add no value; an even number of them keeps the parity

/-- two more zeros never change the value -/
theorem parse_pad2 (w : List Digit) : parseNumber (w ++ [0, 0]) = parseNumber w :=
  parseNumber_pad w 2 rfl

/-- zero in every spelling: a word of `k+1` zero digits denotes 0 whatever its parity (−0 = 0) -/
theorem zero_any_length (k : Nat) : parseNumber (List.replicate (k + 1) (0 : Digit)) = 0 := by
  rw [parseNumber_eq_iff, digitsVal_replicate_zero]; simp

/-- **all spellings of a number**: a non-empty word denotes `n` iff it is the
encoder's spelling followed by zeros — an even number of them unless `n = 0`. -/
theorem spellings (w : List Digit) (hw : w ≠ []) (n : Int) :
    parseNumber w = n ↔
      ∃ k, w = encodeNumber n ++ List.replicate k (0 : Digit) ∧ (n ≠ 0 → k % 2 = 0) := by
  constructor
  · intro h
    obtain ⟨hV, hpar⟩ := (parseNumber_eq_iff w n).mp h
    obtain ⟨j, hj⟩ := digits_unique w hw
    rw [hV] at hj
    by_cases hn0 : n = 0
    · subst hn0
      exact ⟨j, by simpa [encodeNumber_zero, natDigits_lt] using hj, by simp⟩
    · obtain ⟨e, he1, he, hs⟩ := encode_shape n
      have hlen : w.length = (natDigits n.natAbs).length + j := by
        rw [congrArg List.length hj]; simp
      -- the sign fixes the parity of `w.length` and of the encoder's length, so `j ≡ e (mod 2)`; and `e ≤ 1`
      have hje : e ≤ j ∧ (j - e) % 2 = 0 := by have := hpar hn0; omega
      refine ⟨j - e, ?_, fun _ => hje.2⟩
      rw [he, List.append_assoc, List.replicate_append_replicate, Nat.add_sub_cancel' hje.1]
      exact hj
  · rintro ⟨k, rfl, hk⟩
    by_cases hn0 : n = 0
    · subst hn0
      rw [encodeNumber_zero]
      exact zero_any_length k
    · rw [parseNumber_pad _ k (hk hn0), parse_encode]

/-- **the encoder's spelling is the shortest** -/
theorem encode_shortest (w : List Digit) (hw : w ≠ []) :
    (encodeNumber (parseNumber w)).length ≤ w.length := by
  obtain ⟨k, hk, _⟩ := (spellings w hw (parseNumber w)).mp rfl
  conv => rhs; rw [hk]
  simp

/-- distinct integers get distinct spellings -/
theorem encode_injective (m n : Int) (h : encodeNumber m = encodeNumber n) : m = n := by
  rw [← parse_encode m, ← parse_encode n, h]

/-- every spelling is non-empty (so it is a word) -/
theorem encode_ne_nil (n : Int) : encodeNumber n ≠ [] := by
  obtain ⟨e, _, he, _⟩ := encode_shape n
  rw [he]; simp [natDigits_ne_nil]

/-- **the parser looks at a literal's value only**: two non-empty digit words denoting the same number are
interchangeable as a value, as a call arity (`ㅎ…`) and as a frame number (`ㅇ…`), for every stack -/
theorem parseWord_value_only (w₁ w₂ : List Digit) (h₁ : w₁ ≠ []) (h₂ : w₂ ≠ [])
    (h : parseNumber w₁ = parseNumber w₂) (sp : Span) (stack : List AST) :
    parseWord (.lit w₁) sp stack = parseWord (.lit w₂) sp stack ∧
    parseWord (.h w₁) sp stack = parseWord (.h w₂) sp stack ∧
    parseWord (.o w₁) sp stack = parseWord (.o w₂) sp stack := by
  cases w₁ with
  | nil => exact absurd rfl h₁
  | cons d₁ r₁ =>
    cases w₂ with
    | nil => exact absurd rfl h₂
    | cons d₂ r₂ => simp only [parseWord, h, and_self]

/-- in particular a zero-argument call may spell its arity `ㅎㄱ`, `ㅎㄱㄱ`, `ㅎㄱㄱㄱ`, … -/
theorem zero_arity_any_spelling (k : Nat) (sp : Span) (s : List AST) (f : AST) :
    parseWord (.h (List.replicate (k + 1) (0 : Digit))) sp (s ++ [f]) = .ok (s ++ [.call f [] sp]) := by
  have hz := zero_any_length k
  have : List.replicate (k + 1) (0 : Digit) = 0 :: List.replicate k 0 := rfl
  rw [this] at hz ⊢
  simp [parseWord, hz]

-- non-vacuity / documented examples (docs/spec.md:37-44)
example : parseNumber [1, 0] = -1 := by decide
example : parseNumber [0, 1] = -8 := by decide
example : parseNumber [0, 0, 1, 0] = -64 := by decide
example : encodeNumber (-64) = [0, 0, 1, 0] := by decide +kernel
example : ([1,0,0] : List Digit) = encodeNumber 1 ++ List.replicate 2 0 := by decide +kernel

end UH.C08
