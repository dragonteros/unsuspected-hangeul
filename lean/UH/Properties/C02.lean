/-
C02 — core evaluation is the lexically scoped, non-strict calculus of the spec.

Theorems about `interpret` / `applyCallee` (the model of interpret.py:160-325).
-/
import UH.Model.Interp
import UH.Proofs.Comp
import UH.Proofs.PyIndex
namespace UH.C02
open UH Comp

/-- a non-negative index `rel` counts from the innermost enclosing function -/
theorem pyIndex_from_inner {α} (l : List α) (rel : Int) (h0 : 0 ≤ rel) (h1 : rel < l.length) :
    pyIndex l (-rel - 1) = l[l.length - 1 - rel.toNat]? := by
  rw [pyIndex_of_neg l _ (by omega) (by omega)]; congr 1; omega

/-- a negative index `rel` counts from the outermost: position `-rel-1` -/
theorem pyIndex_from_outer {α} (l : List α) (rel : Int) (h0 : rel < 0) :
    pyIndex l (-rel - 1) = l[(-rel - 1).toNat]? :=
  pyIndex_of_nonneg l _ (by omega)

/-- the reference is out of range exactly when it names no enclosing function -/
theorem pyIndex_none_iff {α} (l : List α) (rel : Int) :
    pyIndex l (-rel - 1) = none ↔ (0 ≤ rel ∧ (l.length : Int) ≤ rel) ∨ (rel < 0 ∧ (l.length : Int) ≤ -rel - 1) := by
  rw [← Option.not_isSome_iff_eq_none, pyIndex_isSome_iff]; omega

theorem interpret_funRef_ok (rel : Int) (sp : Span) (env : Env) (f : FId)
    (h : pyIndex env.funs (-rel - 1) = some f) :
    interpret (.funRef rel sp) env = ret (.strict (.fn f)) := by
  simp [interpret, h, retV]

theorem interpret_funRef_err (rel : Int) (sp : Span) (env : Env)
    (h : pyIndex env.funs (-rel - 1) = none) :
    interpret (.funRef rel sp) env = throw (builtinErr .outOfRange sp) := by
  simp [interpret, h]

/-- **a function value captures the environment of its definition**, its enclosing functions followed by
itself; the defining environment itself is not modified (`funs[:]` copy) -/
theorem interpret_funDef (body : AST) (sp : Span) (env : Env) :
    interpret (.funDef body sp) env =
      newFn (fun self => .closure body ⟨env.funs ++ [self], env.args⟩) (fun f => ret (.strict (.fn f))) := rfl

/-- **the body of a called closure is delayed in the captured environment extended by the
arguments** — the caller's environment does not occur -/
theorem apply_closure (f : FId) (sp : Span) (args : List Arg) :
    applyCallee (.fn f) sp args = getFn f (fun obj =>
      match obj with
      | .closure body env =>
        newThunk body ⟨env.funs, env.args ++ [args]⟩ (fun t =>
          ret (.thunk t (match body with | .lit n _ => some n | _ => none)))
      | .pipe evs => applyCallee.go sp evs args
      | .collect ev => do
        let vs ← matchArguments sp args (fun v => v.isList || v.isErr) (some [1])
        match vs with
        | [.list xs] => callArg (.apply ev sp xs)
        | [.err _ vals] => callArg (.apply ev sp (vals.map Arg.strict))
        | _ => bottom
      | .spread ev => callArg (.apply ev sp [.strict (.list args)])
      | .file _ => fileCall f sp args
      | .bmod path => bmodCall path sp args
      | .codec s n b => codecCall s n b sp args) := by
  rfl

/-- **a self reference denotes that very function** -/
theorem self_reference (funs : List FId) (self : FId) (args : List (List Arg)) (sp : Span) :
    interpret (.funRef 0 sp) ⟨funs ++ [self], args⟩ = ret (.strict (.fn self)) := by
  apply interpret_funRef_ok
  rw [pyIndex_from_inner _ 0 (by omega) (by simp)]
  simp

/-- an outer reference `k+1` inside the body denotes what `k` denotes outside -/
theorem outer_reference (funs : List FId) (self : FId) (args : List (List Arg)) (k : Nat) (sp : Span)
    (hk : k < funs.length) :
    interpret (.funRef (k + 1 : Nat) sp) ⟨funs ++ [self], args⟩ =
      interpret (.funRef (k : Nat) sp) ⟨funs, args⟩ := by
  have e1 : pyIndex (funs ++ [self]) (-((k + 1 : Nat) : Int) - 1) = funs[funs.length - 1 - k]? := by
    rw [pyIndex_from_inner _ _ (by omega) (by simp; omega)]
    simp only [List.length_append, List.length_singleton, Int.toNat_natCast]
    rw [List.getElem?_append_left (by omega)]
    congr 1; omega
  have e2 : pyIndex funs (-((k : Nat) : Int) - 1) = funs[funs.length - 1 - k]? := by
    rw [pyIndex_from_inner _ _ (by omega) (by omega)]
    simp
  simp only [interpret, e1, e2]

/-- an argument reference first selects the frame of the `relF`-th enclosing function, then
evaluates the position expression in the *current* environment and returns that argument
unevaluated -/
theorem interpret_argRef (a : AST) (relF : Int) (sp : Span) (env : Env) (frame : List Arg)
    (h : pyIndex env.args (-relF - 1) = some frame) :
    interpret (.argRef a relF sp) env =
      newThunk a env (fun t => do
        let v ← forceArg (.thunk t none)
        checkType sp [v] Val.isInteger
        match v with
        | .int i =>
          if 0 ≤ i ∧ i < frame.length then
            (match frame[i.toNat]? with | some x => ret x | none => bottom)
          else throw (builtinErr .outOfRange sp)
        | _ => bottom) := by
  simp only [interpret, h]
  rfl

theorem interpret_argRef_noframe (a : AST) (relF : Int) (sp : Span) (env : Env)
    (h : pyIndex env.args (-relF - 1) = none) :
    interpret (.argRef a relF sp) env = throw (builtinErr .outOfRange sp) := by
  simp [interpret, h]

/-- **arguments are delayed in the caller's environment** -/
theorem interpret_call (f : AST) (args : List AST) (sp : Span) (env : Env) :
    interpret (.call f args sp) env =
      newThunk f env (fun tf => do
        let argv ← mkThunks env args
        let callee ← strictFunctional sp (.thunk tf (match f with | .lit n _ => some n | _ => none))
        checkCallee isBuiltinName sp callee true
        callArg (.apply callee sp argv)) := by
  simp only [interpret]
  rfl

/-- an integer literal in function position names a built-in and is not evaluated -/
theorem literal_callee (sp : Span) (t : TId) (n : Int) :
    strictFunctional sp (.thunk t (some n)) = ret (.builtin n) := rfl

/-- a Boolean selects its first (true) or second (false) argument, **unevaluated** -/
theorem apply_bool (b : Bool) (sp : Span) (x y : Arg) :
    applyCallee (.bool b) sp [x, y] = ret (if b then x else y) := rfl

theorem apply_bool_arity (b : Bool) (sp : Span) (args : List Arg) (h : args.length ≠ 2) :
    applyCallee (.bool b) sp args = throw (valueErr sp) := by
  simp [applyCallee, h]

theorem matchArguments_int (sp : Span) (i : Int) :
    matchArguments sp [.strict (.int i)] Val.isInteger (some [1]) = ret [.int i] := rfl

/-- a list applied to a strict integer `i` yields element `i` (Python index rule), unevaluated -/
theorem apply_list (xs : List Arg) (sp : Span) (i : Int) :
    applyCallee (.list xs) sp [.strict (.int i)] =
      match pyIndex xs i with
      | some a => ret a
      | none => throw (builtinErr .outOfRange sp) := by
  simp only [applyCallee, matchArguments_int, ret_bind]
  cases pyIndex xs i <;> rfl

/-- a string applied to `i` yields its `i`-th code point as a one-character string -/
theorem apply_str (s : String) (sp : Span) (i : Int) :
    applyCallee (.str s) sp [.strict (.int i)] =
      match pyIndex s.toList i with
      | some c => ret (.strict (.str (String.singleton c)))
      | none => throw (builtinErr .outOfRange sp) := by
  simp only [applyCallee, matchArguments_int, ret_bind]
  cases pyIndex s.toList i <;> rfl

theorem apply_bytes (b : List UInt8) (sp : Span) (i : Int) :
    applyCallee (.bytes b) sp [.strict (.int i)] =
      match pyIndex b i with
      | some c => ret (.strict (.bytes [c]))
      | none => throw (builtinErr .outOfRange sp) := by
  simp only [applyCallee, matchArguments_int, ret_bind]
  cases pyIndex b i <;> rfl

theorem apply_err (metas : List Span) (vals : List Val) (sp : Span) (i : Int) :
    applyCallee (.err metas vals) sp [.strict (.int i)] =
      match pyIndex vals i with
      | some v => ret (.strict v)
      | none => throw (builtinErr .outOfRange sp) := by
  simp only [applyCallee, matchArguments_int, ret_bind]
  cases pyIndex vals i <;> rfl

/-- a complex number applied to 0 / 1 yields its real / imaginary part -/
theorem apply_complex (re im : F64) (sp : Span) (i : Int) :
    applyCallee (.complex re im) sp [.strict (.int i)] =
      if i = 0 then ret (.strict (.float re)) else if i = 1 then ret (.strict (.float im))
      else throw (valueErr sp) := by
  simp only [applyCallee, matchArguments_int, ret_bind]
  by_cases h0 : i = 0
  · subst h0; rfl
  · by_cases h1 : i = 1
    · subst h1; rfl
    · simp only [h0, h1, if_false]
      -- the definition matches on the literals 0 and 1, so it computes only once `i` is `n + 2` or negative
      cases i with
      | ofNat n => cases n with
        | zero => exact absurd rfl h0
        | succ n => cases n with
          | zero => exact absurd rfl h1
          | succ n => rfl
      | negSucc n => rfl

/-- a dictionary applied to a strict key looks the key's canonical form up -/
theorem apply_dict (table : List (Val × Key × Arg)) (sp : Span) (v : Val) :
    applyCallee (.dict table) sp [.strict v] =
      call (.keyOf v) (fun r => match r with
        | .key k => (match dictLookup table k with
            | some r => ret r
            | none => throw (builtinErr .notFound sp))
        | _ => bottom) throw :=
  call_congr _ _ fun r => by cases r <;> rfl

/-- the empty value, integers and floats are not callable: a type error -/
theorem apply_not_callable (sp : Span) (args : List Arg) :
    applyCallee .nil sp args = throw (typeErr sp) ∧
    (∀ n, applyCallee (.int n) sp args = throw (typeErr sp)) ∧
    (∀ f, applyCallee (.float f) sp args = throw (typeErr sp)) := by
  refine ⟨rfl, fun _ => rfl, fun _ => rfl⟩

-- non-vacuity: in λx.λy.… the inner function sees itself at 0 and the outer at 1 / -1
example : interpret (.funRef 1 default) ⟨[10, 20], [[], []]⟩ = ret (.strict (.fn 10)) := rfl
example : interpret (.funRef (-1) default) ⟨[10, 20], [[], []]⟩ = ret (.strict (.fn 10)) := rfl

end UH.C02
