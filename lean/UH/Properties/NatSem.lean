/-
The evaluator's natural (big-step) semantics and what follows from it — shared by C02, C05, C13.

`BigStep.Eval` (UH/Proofs/BigStep.lean) is a big-step judgment for the *whole* evaluator, generic in
the coroutines of the built-ins: demands are served from completed cells, unevaluated cells get a
frame, a frame that ends with a delayed expression is replaced by that expression's frame without
consuming height.  Every derivation is realised by the micro-step machine (`step` / `runN`, the model
of `interpret.evaluate`) under any stack with enough room.  The rules of the core calculus are the
specification's lexically scoped call-by-need semantics (`docs/spec.md`) as *derived* rules of that judgment.
-/
import UH.Proofs.EvalFComplete
import UH.Proofs.NatSemMemo
import UH.Model.Main
namespace UH.NatSemP
open UH BigStep Unforced C19

/-- **soundness for a coroutine inside any frame**: whatever the state `M` of the evaluator — any frames
below, any observer — if its active frame is about to run `c`, and `c` evaluates to `r` in the big-step
semantics using at most `h` further frames, and `h` frames still fit under `MAX_STACK_SIZE`, then the
machine reaches the state in which that frame holds the finished coroutine, with the derivation's
store and world; nothing else has changed (observer bookkeeping aside). -/
theorem bigstep_sound_comp {s w c h r s' w'} (hev : Eval s w (.comp c) h r s' w')
    (M : MState) (f : Frame) (rest : List Frame) (isHead : Bool)
    (hrun : M.status = .running) (hresp : M.resp = none) (hact : active M = (f, rest, isHead)) (hcur : f.cur = c)
    (hs : M.store = s) (hw : M.world = w) (hh : M.tail.length + h < maxStackSize) :
    Reaches M (upd M isHead rest { f with cur := resCur r } s' w') :=
  hev.sound M f rest isHead hrun hresp hact hcur hs hw hh

/-- **soundness for a frame**: a frame for the delayed expression `t` on top of any stack `rest` runs until it is
popped, and hands its outcome to the frame below -/
theorem bigstep_sound_frame {s w t h r s' w'} (hev : Eval s w (.frame t) h r s' w')
    (M : MState) (rest : List Frame) (hrun : M.status = .running) (hresp : M.resp = none)
    (htail : M.tail = newFrame s t :: rest) (hs : M.store = s) (hw : M.world = w)
    (hh : rest.length + h < maxStackSize) :
    Reaches M { M with tail := rest, resp := some (frameOut r), store := s', world := w' } :=
  hev.sound M rest hrun hresp htail hs hw hh

/-- **top level**: a derivation for the head coroutine is a finished run of `evaluate` with that result -/
theorem bigstep_run_head {s w c h r s' w'} (hev : Eval s w (.comp c) h r s' w') (hh : h < maxStackSize) :
    ∃ n, (runN n (initState s w c)).status = .done r ∧ (runN n (initState s w c)).store = s' ∧
      (runN n (initState s w c)).world = w' :=
  hev.run_head hh

theorem bigstep_mono {s w task h r s' w'} (hev : Eval s w task h r s' w') (h' : Nat) (hh : h ≤ h') :
    Eval s w task h' r s' w' := hev.mono h' hh

/-- **C05 — a loop written as tail calls runs for any number of iterations in constant stack.**
If each of the frames `t 0 … t (n-1)` ends by handing over the next delayed expression (a call whose result is
directly another call, possibly selected by a Boolean — `rule_call_closure`, `apply_bool`) and needs at most `h`
frames of its own, and the last one produces `r`, then on top of *any* stack with room for `h + 1` frames the
machine runs all `n` iterations and delivers `r` — `n` does not occur in the bound, and the stack-limit report
is never reached. -/
theorem tail_loops_constant_stack {h : Nat} {r : Except ErrV Res} {s' : Store} {w' : World}
    (st : Nat → Store) (wd : Nat → World) (t : Nat → TId) (lit : Nat → Option Int) (n : Nat)
    (hb : ∀ i, i < n → ∃ s1, Eval (st i) (wd i) (.comp (newFrame (st i) (t i)).cur) h
        (.ok (.arg (.thunk (t (i + 1)) (lit i)))) s1 (wd (i + 1)) ∧ st (i + 1) = setRequestor s1 (t (i + 1)) (some (t i)))
    (hl : Eval (st n) (wd n) (.frame (t n)) (h + 1) r s' w')
    (M : MState) (rest : List Frame) (hrun : M.status = .running) (hresp : M.resp = none)
    (htail : M.tail = newFrame (st 0) (t 0) :: rest) (hs : M.store = st 0) (hw : M.world = wd 0)
    (hh : rest.length + (h + 1) < maxStackSize) :
    Reaches M { M with tail := rest, resp := some (frameOut r), store := s', world := w' } :=
  (Eval.tail_iter st wd t lit n hb hl).sound M rest hrun hresp htail hs hw hh

/-- … in particular the machine is still running afterwards: it did not stop with the limit report -/
theorem tail_loops_no_limit {h : Nat} {r : Except ErrV Res} {s' : Store} {w' : World}
    (st : Nat → Store) (wd : Nat → World) (t : Nat → TId) (lit : Nat → Option Int) (n : Nat)
    (hb : ∀ i, i < n → ∃ s1, Eval (st i) (wd i) (.comp (newFrame (st i) (t i)).cur) h
        (.ok (.arg (.thunk (t (i + 1)) (lit i)))) s1 (wd (i + 1)) ∧ st (i + 1) = setRequestor s1 (t (i + 1)) (some (t i)))
    (hl : Eval (st n) (wd n) (.frame (t n)) (h + 1) r s' w')
    (M : MState) (rest : List Frame) (hrun : M.status = .running) (hresp : M.resp = none)
    (htail : M.tail = newFrame (st 0) (t 0) :: rest) (hs : M.store = st 0) (hw : M.world = wd 0)
    (hh : rest.length + (h + 1) < maxStackSize) :
    ∃ k, (runN k M).status = .running ∧ (runN k M).tail = rest ∧ (runN k M).resp = some (frameOut r) := by
  -- the state reached is `{ M with tail, resp, store, world }`: its status is `M`'s
  obtain ⟨k, hstatus, -, -, htl, hrsp⟩ :=
    (tail_loops_constant_stack st wd t lit n hb hl M rest hrun hresp htail hs hw hh).fields
  exact ⟨k, hstatus.trans hrun, htl, hrsp⟩

/-- **C13 — a completed cell is served, not re-evaluated**: in the big-step semantics the demand for a cell that
holds a value continues with that value in the *same* store and world (the rule has no frame among its premises) -/
theorem completed_cell_served {s w h t k ke v r s' w'} (hv : (s.getCell t).value = some (.ok v))
    (hk : Eval s w (.comp (k v)) h r s' w') : Eval s w (.comp (.force t k ke)) h r s' w' :=
  .forceOk hv hk

theorem completed_failure_served {s w h t k ke e r s' w'} (hv : (s.getCell t).value = some (.error e))
    (hk : Eval s w (.comp (ke e)) h r s' w') : Eval s w (.comp (.force t k ke)) h r s' w' :=
  .forceErr hv hk

/-- **C13 — evaluation never forgets**: whatever is evaluated, in whatever order and with whatever result, every cell
that held an outcome before holds one afterwards (a demand for such a cell is answered by `completed_cell_served` or
`completed_failure_served`, the rule with a frame asks for a cell without outcome) -/
theorem knowledge_grows {s w task h r s' w'} (hev : Eval s w task h r s' w') (hw : HeapWF s.cells) :
    HeapWF s'.cells ∧ ∀ t, Known s t → Known s' t := hev.knowledge_grows hw

theorem cells_persist {s w task h r s' w'} (hev : Eval s w task h r s' w') :
    ∀ u, (s.cells.get? u).isSome → (s'.cells.get? u).isSome := hev.cells_persist

/-- a frame that ends with its own value leaves exactly that value in its cell … -/
theorem value_recorded {s w h t v s1 w1}
    (hc : Eval s w (.comp (newFrame s t).cur) h (.ok (.arg (.strict v))) s1 w1) (ht : (s.cells.get? t).isSome) :
    ((s1.resolve (s1.cells.size + 1) t (.ok v)).getCell t).value = some (.ok v) := frame_value_recorded hc ht

/-- … and one that ends with an exception leaves the exception: the failure is shared by every later user -/
theorem failure_recorded {s w h t e s1 w1}
    (hc : Eval s w (.comp (newFrame s t).cur) h (.error e) s1 w1) (ht : (s.cells.get? t).isSome) :
    ((s1.resolve (s1.cells.size + 1) t (.error e)).getCell t).value = some (.error e) :=
  C13.resolve_sets_own _ _ _ _ (hc.cells_persist _ ht)

/-- the initial store is well-formed (the hypothesis of `knowledge_grows` is satisfiable) -/
theorem initStore_wf : HeapWF initStore.cells := HeapWF.empty

/-! ### C02 — the core calculus: derived natural-semantics rules -/

theorem ns_lit (s : Store) (w : World) (h : Nat) (n : Int) (sp : Span) (env : Env) :
    Eval s w (.comp (bodyOf (.lit n sp) env)) h (.ok (.arg (.strict (.int n)))) s w := rule_lit s w h n sp env

theorem ns_funRef (s : Store) (w : World) (h : Nat) (rel : Int) (sp : Span) (env : Env) (f : FId)
    (hf : pyIndex env.funs (-rel - 1) = some f) :
    Eval s w (.comp (bodyOf (.funRef rel sp) env)) h (.ok (.arg (.strict (.fn f)))) s w :=
  rule_funRef s w h rel sp env f hf

theorem ns_funRef_err (s : Store) (w : World) (h : Nat) (rel : Int) (sp : Span) (env : Env)
    (hf : pyIndex env.funs (-rel - 1) = none) :
    Eval s w (.comp (bodyOf (.funRef rel sp) env)) h (.error (builtinErr .outOfRange sp)) s w := by
  simp only [bodyOf, interpret, hf, Bind.bind, Comp.bind]
  exact .throw _ _ _ _

theorem ns_funDef (s : Store) (w : World) (h : Nat) (body : AST) (sp : Span) (env : Env) :
    Eval s w (.comp (bodyOf (.funDef body sp) env)) h (.ok (.arg (.strict (.fn s.fns.size))))
      { s with fns := s.fns.push (.closure body ⟨env.funs ++ [s.fns.size], env.args⟩) } w :=
  rule_funDef s w h body sp env

theorem ns_argRef (s : Store) (w : World) (h : Nat) (a : AST) (relF : Int) (sp : Span) (env : Env)
    (frame : List Arg) (i : Int) (x : Arg) (s1 : Store) (w1 : World)
    (hfr : pyIndex env.args (-relF - 1) = some frame)
    (hpos : Eval (alloc s a env) w (.frame s.cells.size) h (.ok (.arg (.strict (.int i)))) s1 w1)
    (hi : 0 ≤ i ∧ i < frame.length) (hx : frame[i.toNat]? = some x) :
    Eval s w (.comp (bodyOf (.argRef a relF sp) env)) h (.ok (.arg x)) s1 w1 :=
  rule_argRef s w h a relF sp env frame i x s1 w1 hfr hpos hi hx

theorem ns_call_closure (s : Store) (w : World) (h : Nat) (f : AST) (args : List AST) (sp : Span) (env : Env)
    (fid : FId) (body : AST) (cenv : Env) (s1 : Store) (w1 : World)
    (hf : tagOf f = none)
    (hcallee : Eval (allocArgs (alloc s f env) env args).1 w (.frame s.cells.size) h
        (.ok (.arg (.strict (.fn fid)))) s1 w1)
    (hfn : s1.fns.get? fid = some (.closure body cenv)) :
    Eval s w (.comp (bodyOf (.call f args sp) env)) h
      (.ok (.arg (.thunk s1.cells.size (tagOf body))))
      (alloc s1 body ⟨cenv.funs, cenv.args ++ [(allocArgs (alloc s f env) env args).2]⟩) w1 :=
  rule_call_closure s w h f args sp env fid body cenv s1 w1 hf hcallee hfn

theorem ns_beta (s : Store) (w : World) (h : Nat) (t : TId) (f : AST) (args : List AST) (sp : Span) (env : Env)
    (fid : FId) (body : AST) (cenv : Env) (s1 : Store) (w1 : World) (r : Except ErrV Res) (s' : Store) (w' : World)
    (hcell : (s.getCell t).value = none) (hexpr : (s.getCell t).expr = .call f args sp) (henv : (s.getCell t).env = env)
    (hf : tagOf f = none)
    (hcallee : Eval (allocArgs (alloc s f env) env args).1 w (.frame s.cells.size) h
        (.ok (.arg (.strict (.fn fid)))) s1 w1)
    (hfn : s1.fns.get? fid = some (.closure body cenv))
    (hbody : Eval (setRequestor (alloc s1 body ⟨cenv.funs, cenv.args ++ [(allocArgs (alloc s f env) env args).2]⟩)
        s1.cells.size (some t)) w1 (.frame s1.cells.size) (h + 1) r s' w') :
    Eval s w (.frame t) (h + 1) r s' w' :=
  rule_beta s w h t f args sp env fid body cenv s1 w1 r s' w' hcell hexpr henv hf hcallee hfn hbody

/-- the premises of the rules are satisfiable — a complete derivation: the frame of a freshly delayed literal produces
the literal and writes it into the cell -/
theorem frame_of_literal (s : Store) (w : World) (h : Nat) (n : Int) (sp : Span) (env : Env) :
    Eval (alloc s (.lit n sp) env) w (.frame s.cells.size) (h + 1) (.ok (.arg (.strict (.int n))))
      ((alloc s (.lit n sp) env).resolve ((alloc s (.lit n sp) env).cells.size + 1) s.cells.size (.ok (.int n))) w := by
  refine .frameVal ?_
  rw [newFrame_cur_none (by rw [getCell_alloc_new]), getCell_alloc_new]
  exact rule_lit _ _ _ _ _ _

/-- … and the machine realises it: from any running state that has just pushed that frame -/
example (s : Store) (w : World) (n : Int) (sp : Span) (env : Env) (M : MState) (rest : List Frame)
    (hrun : M.status = .running) (hresp : M.resp = none)
    (htail : M.tail = newFrame (alloc s (.lit n sp) env) s.cells.size :: rest)
    (hs : M.store = alloc s (.lit n sp) env) (hw : M.world = w) (hh : rest.length + 1 < maxStackSize) :
    ∃ k, (runN k M).resp = some (.ok (.int n)) ∧ (runN k M).tail = rest := by
  obtain ⟨k, -, -, -, htl, hrsp⟩ := (bigstep_sound_frame (frame_of_literal s w 0 n sp env) M rest hrun hresp htail hs hw hh).fields
  exact ⟨k, hrsp, htl⟩

/-! ### the executable big-step evaluator, and closed instances

`evalF` (UH/Model/EvalF.lean) is `Eval` as a function with fuel; the driver runs it on every ordinary case of the
correspondence (command `main2`).  The instances below are *tests*, checked by kernel evaluation — they show that
closed derivations exist for real programs, and
that the loop's height does not depend on its iteration count in these instances; the general statement is
`tail_loops_constant_stack`. -/

theorem evalF_derivable (fuel : Nat) (s : Store) (w : World) (task : Task) (br : BigResult)
    (h : evalF fuel s w task = .ok br) : Eval s w task br.height br.res br.store br.world :=
  evalF_sound fuel s w task br h

theorem evalF_is_machine (fuel : Nat) (s : Store) (w : World) (c : Comp Res) (br : BigResult)
    (h : evalF fuel s w (.comp c) = .ok br) (hh : br.height < maxStackSize) :
    ∃ n, (runN n (initState s w c)).status = .done br.res ∧ (runN n (initState s w c)).store = br.store ∧
      (runN n (initState s w c)).world = br.world :=
  evalF_machine fuel s w c br h hh

/-- **completeness of the executable evaluator**: every derivation of the natural semantics is found with enough fuel — `Eval`
and `evalF` are two presentations of one partial function -/
theorem evalF_finds_every_derivation {s w task h r s' w'} (hev : Eval s w task h r s' w') :
    ∃ fuel h', evalF fuel s w task = .ok ⟨r, s', w', h'⟩ ∧ h' ≤ h := evalF_complete hev

/-- **the natural semantics is deterministic** (coroutines and frames, any heights) -/
theorem bigstep_deterministic {s w task h1 h2 r1 r2 s1 s2 w1 w2}
    (e1 : Eval s w task h1 r1 s1 w1) (e2 : Eval s w task h2 r2 s2 w2) : r1 = r2 ∧ s1 = s2 ∧ w1 = w2 :=
  Eval.deterministic e1 e2

def w0 : World := { stdin := [], stdout := [], files := [], dirs := [], handles := #[], registry := [] }
def sp0 : Span := ⟨0, 0, 0⟩

/-- the head coroutine "evaluate this program expression to weak-head form" -/
def forceProg (e : AST) : Store × Comp Res :=
  let (t, st) := allocCell initStore e
  (st, do let v ← Comp.forceArg (.thunk t none); pure (Res.arg (.strict v)))

/-- integer result and height of a program, by the big-step evaluator -/
def valueOf (fuel : Nat) (e : AST) : Option (Int × Nat) :=
  match evalF fuel (forceProg e).1 w0 (.comp (forceProg e).2) with
  | .ok ⟨.ok (.arg (.strict (.int n))), _, _, h⟩ => some (n, h)
  | _ => none

theorem valueOf_machine (fuel : Nat) (e : AST) (n : Int) (h : Nat) (hv : valueOf fuel e = some (n, h))
    (hh : h < maxStackSize) :
    ∃ k, (runN k (initState (forceProg e).1 w0 (forceProg e).2)).status = .done (.ok (.arg (.strict (.int n)))) := by
  unfold valueOf at hv
  split at hv
  next n' _ _ h' heq =>
    obtain ⟨rfl, rfl⟩ : n' = n ∧ h' = h := by simpa using hv
    obtain ⟨k, hk, -, -⟩ := evalF_machine fuel _ w0 _ _ heq hh
    exact ⟨k, hk⟩
  next => cases hv

/-- `(λx. x) 5` -/
def progId : AST := .call (.funDef (.argRef (.lit 0 sp0) 0 sp0) sp0) [.lit 5 sp0] sp0

/-- `f(n) = (n = 0)(0, f(n + (−1)))` applied to `n`: a loop by tail calls, selected by a Boolean -/
def countdown (n : Int) : AST :=
  .call (.funDef (.call (.call (.lit 1 sp0) [.argRef (.lit 0 sp0) 0 sp0, .lit 0 sp0] sp0)
      [.lit 0 sp0, .call (.funRef 0 sp0) [.call (.lit 2 sp0) [.argRef (.lit 0 sp0) 0 sp0, .lit (-1) sp0] sp0] sp0] sp0) sp0)
    [.lit n sp0] sp0

theorem instance_id : valueOf 100 progId = some (5, 2) := by decide +kernel
theorem instance_countdown_2 : valueOf 300 (countdown 2) = some (0, 5) := by decide +kernel
theorem instance_countdown_12 : valueOf 3000 (countdown 12) = some (0, 5) := by decide +kernel

/-- the machine evaluates `(λx. x) 5` to 5 (through the big-step derivation) -/
theorem machine_id : ∃ k, (runN k (initState (forceProg progId).1 w0 (forceProg progId).2)).status
    = .done (.ok (.arg (.strict (.int 5)))) := valueOf_machine 100 progId 5 2 instance_id (by decide)

/-- … and the twelve-iteration loop to 0 (height 5: `instance_countdown_12`) -/
theorem machine_countdown_12 : ∃ k, (runN k (initState (forceProg (countdown 12)).1 w0 (forceProg (countdown 12)).2)).status
    = .done (.ok (.arg (.strict (.int 0)))) := valueOf_machine 3000 (countdown 12) 0 5 instance_countdown_12 (by decide)

end UH.NatSemP
