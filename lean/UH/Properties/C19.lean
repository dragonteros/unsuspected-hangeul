/-
C19 — attaching a debugger observer is transparent and sees well-nested events.

Generic in the coroutines.  `replay` re-reads the observer's log with a bracket
stack: a `before(d, e)` must come at depth = nesting + 1, an `after(d, e, r)` must
match the innermost open `before` at the same depth for the same expression.
-/
import UH.Proofs.MachineInv
namespace UH.C19
open UH

/-- **well-nested**: in every reachable state the log replays without a mismatch, and its open
brackets are exactly the evaluations still pending, at depths `depth, depth-1, …, 1` -/
theorem events_well_nested (n : Nat) (store : Store) (w : World) (c : Comp Res) :
    let m := runN n (initState store w c)
    replay m.events = some (zipDown m.depth (openExprs m.dstack)) :=
  (MachineInv.runN n _ (MachineInv.init store w c)).log

/-- the depth counter is the number of pending evaluations, one bookkeeping entry per frame -/
theorem depth_invariant (n : Nat) (store : Store) (w : World) (c : Comp Res) :
    let m := runN n (initState store w c)
    m.depth = sumLens m.dstack ∧ m.dstack.length = m.tail.length :=
  let h := (MachineInv.runN n _ (MachineInv.init store w c)).depth
  ⟨h.depth_eq, h.len_eq⟩

/-- a run can only finish (with a value or an exception) from the head coroutine -/
theorem step_done_tail (m : MState) (hs : m.status = .running) (r : Except ErrV Res)
    (hd : (step m).status = .done r) : m.tail = [] ∧ (step m).tail = [] ∧ (step m).dstack = m.dstack
      ∧ (step m).depth = m.depth ∧ (step m).events = m.events := by
  match step_kind m hs with
  | .stay (hd := hdp) (hs := hds) (he := he) (ht := ht) (hdone := hdone) .. =>
    have h0 : m.tail = [] := hdone r hd
    exact ⟨h0, List.eq_nil_of_length_eq_zero (by rw [ht, h0]; rfl), hds, hdp, he⟩
  | .push (hlim := hlim) .. =>  -- the status after a push is `limit` or still `running`, never `done`
    rcases hlim with h | ⟨h, _⟩
    · rw [h] at hd; cases hd
    · rw [h, hs] at hd; cases hd
  | .replace (hst := hst) .. => rw [hst, hs] at hd; cases hd
  | .pop (hm := hm) .. => rw [hm] at hd; cases hs.symm.trans hd  -- `finishFrame` leaves the status alone

theorem done_tail_step (m : MState) (h : ∀ r, m.status = .done r → m.tail = []) :
    ∀ r, (step m).status = .done r → (step m).tail = [] := by
  by_cases hrun : m.status = .running
  · exact fun r hd => (step_done_tail m hrun r hd).2.1
  · rw [step_not_running m hrun]; exact h

/-- **the depth is back to zero when evaluation ends, normally or by exception**, and every
`before` event has been matched by exactly one `after` event (the stack-limit abort is excluded:
the implementation raises out of the loop without notifying the observer) -/
theorem depth_zero_at_end (n : Nat) (store : Store) (w : World) (c : Comp Res) (r : Except ErrV Res)
    (hdone : (runN n (initState store w c)).status = .done r) :
    (runN n (initState store w c)).depth = 0 ∧ replay (runN n (initState store w c)).events = some [] := by
  have hinv := MachineInv.runN n _ (MachineInv.init store w c)
  -- "done only with an empty stack" is kept by `step` (`done_tail_step`) and holds of a running state for want of a `done`
  have ht := runN_inv done_tail_step n (initState store w c) nofun r hdone
  have hds : (runN n (initState store w c)).dstack = [] :=
    List.eq_nil_of_length_eq_zero (by rw [hinv.depth.len_eq, ht]; rfl)
  have hdep : (runN n (initState store w c)).depth = 0 := by
    rw [hinv.depth.depth_eq, hds]; rfl
  refine ⟨hdep, ?_⟩
  rw [hinv.log, hdep, hds]; rfl

/-- forget everything only the observer uses -/
def forget (m : MState) : MState := { m with depth := 0, dstack := [], events := [], starts := [] }

theorem forget_finishFrame (m : MState) (f : Frame) (rest : List Frame) (r : Outcome) :
    forget (finishFrame m f rest r) = forget (finishFrame (forget m) f rest r) := by
  simp [forget, finishFrame]

theorem perform_forget (m : MState) (f : Frame) (rest : List Frame) (b : Bool) (a : Action) :
    forget (perform m f rest b a) = forget (perform (forget m) f rest b a) := by
  cases a with
  | cont f' s w => cases b <;> rfl
  | request t =>  -- the limit test reads `tail`, which `forget` keeps
    simp only [perform, show (forget m).tail = m.tail from rfl]; split <;> rfl
  | finish r =>
    cases b with
    | true => rfl
    | false =>
      -- the four outcomes of a frame, as in `perform`; only `finishFrame` touches the observer's fields beyond `{ m with … }`
      match r with
      | .ok (.arg (.thunk t' _)) => rfl
      | .ok (.arg (.strict v)) => exact forget_finishFrame ..
      | .ok (.key _) | .ok (.str _) => rfl
      | .error e => exact forget_finishFrame ..
  | bottom => rfl
  | unmodelled why => rfl

/-- **observer transparency**: result, exception, store and world of a step do not depend on the
observer's bookkeeping -/
theorem step_forget (m : MState) : forget (step m) = forget (step (forget m)) := by
  by_cases hrun : m.status = .running
  · -- `react` is not even given the observer's fields
    rw [step_eq hrun rfl, step_eq (m := forget m) hrun rfl]
    exact perform_forget ..
  · rw [step_not_running m hrun, step_not_running (forget m) hrun]; rfl

theorem runN_forget (n : Nat) (m : MState) : forget (runN n m) = forget (runN n (forget m)) := by
  induction n generalizing m with
  | zero => rfl
  | succ n ih =>
    by_cases hs : m.status = .running
    · rw [runN_succ_running n m hs, runN_succ_running n (forget m) hs, ih (step m), ih (step (forget m)),
        step_forget]
    · rw [runN_not_running _ m hs, runN_not_running _ (forget m) hs]; rfl

end UH.C19
