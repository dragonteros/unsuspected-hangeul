/-
C11 — arithmetic is exact on unbounded integers and obeys the numeric-tower laws.
-/
import UH.Model.Interp
namespace UH.C11
open UH

/-- **ㄷ and ㄱ on integers are the addition and multiplication of ℤ** -/
theorem add_int (a b : Int) : Num.add (.int a) (.int b) = .ok (.int (a + b)) := rfl
theorem mul_int (a b : Int) : Num.mul (.int a) (.int b) = .ok (.int (a * b)) := rfl

/-- the sum of integer operands is their exact sum (fold from 0, as `sum()` does) -/
theorem sum_ints (xs : List Int) (init : Int) :
    (xs.map Num.int).foldlM Num.add (Num.int init) = (.ok (Num.int (xs.foldl (· + ·) init)) : NumM Num) := by
  induction xs generalizing init with
  | nil => rfl
  | cons x xs ih => simp only [List.map_cons, List.foldlM_cons, List.foldl_cons]; exact ih (init + x)

theorem prod_ints (xs : List Int) (init : Int) :
    (xs.map Num.int).foldlM Num.mul (Num.int init) = (.ok (Num.int (xs.foldl (· * ·) init)) : NumM Num) := by
  induction xs generalizing init with
  | nil => rfl
  | cons x xs ih => simp only [List.map_cons, List.foldlM_cons, List.foldl_cons]; exact ih (init * x)

/-- **the quotient is truncated toward zero** -/
theorem intQuot_eq_tdiv (n d : Int) (hd : d ≠ 0) : intQuot n d = Int.tdiv n d := by
  unfold intQuot
  -- on the constructors of `n` and `d` both `fdiv`s and `tdiv` compute: the floor quotient is a `negSucc` exactly
  -- when the signs differ, and the floor quotient of the negated dividend is then the natural quotient
  match n, d, hd with
  | _, .ofNat 0, h => exact absurd rfl h
  | .ofNat 0, d, _ => simp
  | .ofNat (a+1), .ofNat (b+1), _ | .negSucc a, .negSucc b, _ =>
    show (if Int.ofNat ((a+1)/(b+1)) < 0 then _ else _) = Int.ofNat ((a+1)/(b+1))
    have h : ¬ Int.ofNat ((a+1)/(b+1)) < 0 := Int.not_lt.mpr (Int.natCast_nonneg _)
    rw [if_neg h]; rfl
  | .ofNat (a+1), .negSucc b, _ =>
    show (if Int.negSucc (a / (b+1)) < 0 then -(Int.fdiv (Int.negSucc a) (Int.negSucc b)) else _) =
      -Int.ofNat ((a+1)/(b+1))
    rw [if_pos (Int.negSucc_lt_zero _)]; rfl
  | .negSucc a, .ofNat (b+1), _ =>
    show (if Int.negSucc (a / (b+1)) < 0 then -(Int.fdiv (Int.ofNat (a+1)) (Int.ofNat (b+1))) else _) =
      -Int.ofNat ((a+1)/(b+1))
    rw [if_pos (Int.negSucc_lt_zero _)]; rfl

/-- **the remainder has the sign of the dividend** (it is the truncated remainder) -/
theorem intRem_eq_tmod (n d : Int) (hd : d ≠ 0) : intRem n d = Int.tmod n d := by
  -- each remainder is `n − d * quotient` for its quotient (`fmod_add_mul_fdiv` for `n` or `-n`, `tmod_add_mul_tdiv`), and the
  -- quotients are related by `intQuot_eq_tdiv`, read in the branch of `intQuot` at hand; `omega` takes the products as atoms
  have hq := intQuot_eq_tdiv n d hd
  have e3 : n.tmod d + d * n.tdiv d = n := Int.tmod_add_mul_tdiv n d
  unfold intRem
  unfold intQuot at hq
  by_cases h : Int.fdiv n d < 0
  · -- signs differ: quotient `-((-n).fdiv d)`, remainder `-((-n).fmod d)`
    rw [if_pos h] at hq
    rw [if_neg (by omega)]
    have e2 : (-n).fmod d + d * (-n).fdiv d = -n := Int.fmod_add_mul_fdiv (-n) d
    rw [show (-n).fdiv d = -(n.tdiv d) by omega, Int.mul_neg] at e2
    omega
  · -- otherwise floor and truncation coincide
    rw [if_neg h] at hq
    rw [if_pos (by omega)]
    have e1 : n.fmod d + d * n.fdiv d = n := Int.fmod_add_mul_fdiv n d
    rw [hq] at e1
    omega

/-- **dividend = quotient × divisor + remainder, |remainder| < |divisor|** -/
theorem div_law (n d : Int) (hd : d ≠ 0) :
    n = intQuot n d * d + intRem n d ∧ (intRem n d).natAbs < d.natAbs := by
  rw [intQuot_eq_tdiv n d hd, intRem_eq_tmod n d hd]
  constructor
  · have := Int.tmod_add_mul_tdiv n d
    rw [Int.mul_comm]; omega
  · rw [Int.natAbs_tmod]
    exact Nat.mod_lt _ (by omega)

/-- the remainder is zero or has the sign of the dividend -/
theorem rem_sign (n d : Int) (hd : d ≠ 0) : (0 ≤ n → 0 ≤ intRem n d) ∧ (n ≤ 0 → intRem n d ≤ 0) := by
  rw [intRem_eq_tmod n d hd]
  constructor
  · intro h; exact Int.tmod_nonneg d h
  · intro h
    have := Int.tmod_nonneg (a := -n) d (by omega)
    rw [Int.neg_tmod] at this; omega

/-- division by zero is the Division exception (both built-ins check the divisor first) -/
theorem div_zero (sp : Span) (n : Int) :
    bIntegerDivision sp [.strict (.int n), .strict (.int 0)] = Comp.throw (builtinErr .division sp) ∧
    bRemainder sp [.strict (.int n), .strict (.int 0)] = Comp.throw (builtinErr .division sp) := ⟨rfl, rfl⟩

example : intQuot (-7) 2 = -3 ∧ intRem (-7) 2 = -1 ∧ intQuot 7 (-2) = -3 ∧ intRem 7 (-2) = 1 := by decide

/-- integer powers with non-negative exponent stay exact integers (exponents above 100000 are left unmodelled unless
`|b| ≤ 1`: `Num.pow`) -/
theorem pow_nonneg_exact (b : Int) (e : Nat) (h : e ≤ 100000) :
    Num.pow (.int b) (.int e) = .ok (.int (b ^ e)) := by
  have h1 : (0 : Int) ≤ (e : Int) := by omega
  have h2 : ¬ ((e : Int) > 100000 ∧ b.natAbs > 1) := by omega
  simp [Num.pow, h1, h2]

theorem lt_int (a b : Int) : Num.realLt (.int a) (.int b) = decide (a < b) := rfl

/-- **ㅈ on integers is the strict total order of ℤ** -/
theorem lt_trichotomy (a b : Int) :
    (Num.realLt (.int a) (.int b) = true ∧ a ≠ b ∧ Num.realLt (.int b) (.int a) = false) ∨
    (Num.realLt (.int a) (.int b) = false ∧ a = b ∧ Num.realLt (.int b) (.int a) = false) ∨
    (Num.realLt (.int a) (.int b) = false ∧ a ≠ b ∧ Num.realLt (.int b) (.int a) = true) := by
  simp only [lt_int, decide_eq_true_eq, decide_eq_false_iff_not]
  omega

/-- exact comparison of an integer with a float goes through exact keys, never through rounding -/
theorem lt_int_float (a : Int) (x : F64) :
    Num.realLt (.int a) (.float x) = F64.NumKey.lt (F64.intNumKey a) (F64.toNumKey x) := rfl

/-- **Boolean ㄱ / ㄷ are the conjunction / disjunction of all their operands** -/
theorem and_bools (sp : Span) (bs : List Bool) :
    bAll sp (bs.map (fun b => Arg.strict (.bool b))) = Comp.ret (.strict (.bool (bs.all id))) := by
  induction bs with
  | nil => rfl
  | cons b bs ih =>
    cases b
    · rfl
    · exact ih

theorem or_bools (sp : Span) (bs : List Bool) :
    bAny sp (bs.map (fun b => Arg.strict (.bool b))) = Comp.ret (.strict (.bool (bs.any id))) := by
  induction bs with
  | nil => rfl
  | cons b bs ih =>
    cases b
    · exact ih
    · rfl

theorem powModNat_go_spec (m : Nat) (hm : 0 < m) (fuel b e acc : Nat) (he : e < 2 ^ fuel) (hacc : acc < m) :
    powModNat.go m fuel b e acc = acc * b ^ e % m := by
  induction fuel generalizing b e acc with
  | zero =>
    have : e = 0 := by simpa using he
    subst this
    simp [powModNat.go, Nat.mod_eq_of_lt hacc]
  | succ fuel ih =>
    unfold powModNat.go
    by_cases h0 : e = 0
    · subst h0; simp [Nat.mod_eq_of_lt hacc]
    · simp only [h0, if_false]
      have he2 : e / 2 < 2 ^ fuel := by
        rw [Nat.pow_succ] at he; omega
      have hsq : ∀ k : Nat, (b * b % m) ^ k % m = b ^ (2 * k) % m := by
        intro k
        rw [← Nat.pow_mod, Nat.pow_mul, Nat.pow_two]
      by_cases hodd : e % 2 = 1
      · simp only [hodd, if_true]
        rw [ih _ _ _ he2 (Nat.mod_lt _ hm)]
        have hk : 2 * (e / 2) + 1 = e := by omega
        calc acc * b % m * (b * b % m) ^ (e / 2) % m
            = acc * b * b ^ (2 * (e / 2)) % m := by rw [Nat.mul_mod, Nat.mod_mod, hsq, ← Nat.mul_mod]
          _ = acc * (b ^ (2 * (e / 2)) * b) % m := by rw [Nat.mul_assoc, Nat.mul_comm b]
          _ = acc * b ^ e % m := by rw [← Nat.pow_add_one, hk]
      · simp only [hodd, if_false]
        rw [ih _ _ _ he2 hacc]
        have hk : 2 * (e / 2) = e := by omega
        calc acc * (b * b % m) ^ (e / 2) % m
            = acc * b ^ (2 * (e / 2)) % m := by rw [Nat.mul_mod, hsq, ← Nat.mul_mod]
          _ = acc * b ^ e % m := by rw [hk]

/-- **modular power**: square-and-multiply computes `b^e mod m` exactly, for every base, exponent and modulus -/
theorem powModNat_spec (b e m : Nat) (hm : 0 < m) : powModNat b e m = b ^ e % m := by
  unfold powModNat
  have hlt : e < 2 ^ (Nat.log2 e + 2) := by
    have := @Nat.lt_log2_self e
    calc e < 2 ^ (Nat.log2 e + 1) := this
      _ ≤ 2 ^ (Nat.log2 e + 2) := Nat.pow_le_pow_right (by omega) (by omega)
  rw [powModNat_go_spec m hm _ _ _ _ hlt (Nat.mod_lt _ hm)]
  rw [Nat.mul_mod, Nat.mod_mod, ← Nat.mul_mod, Nat.one_mul, ← Nat.pow_mod]

theorem emod_pow_emod (b M : Int) (k : Nat) : (b % M) ^ k % M = b ^ k % M := by
  induction k with
  | zero => simp
  | succ k ih =>
    rw [Int.pow_succ, Int.pow_succ, Int.mul_emod, ih, Int.emod_emod_of_dvd _ (Int.dvd_refl M), ← Int.mul_emod]

/-- `ㅅ` with three arguments and a non-negative exponent is exactly `base^exp mod |modulus|` -/
theorem powMod_nonneg (b e m : Int) (hm : m ≠ 0) (he : 0 ≤ e) :
    powMod b e m = some (b ^ e.toNat % (m.natAbs : Int)) := by
  unfold powMod
  have hM : m.natAbs ≠ 0 := by omega
  have hMpos : 0 < m.natAbs := by omega
  simp only [hM, if_false, he, if_true]
  rw [powModNat_spec _ _ _ hMpos]
  -- the base went in as the natural number `(b % |m|).toNat`: cast back it is `b % |m|`, which `emod_pow_emod` replaces by `b`
  have hx : 0 ≤ b % (m.natAbs : Int) := Int.emod_nonneg _ (by omega)
  have hcast : (((b % (m.natAbs : Int)).toNat ^ e.toNat % m.natAbs : Nat) : Int) =
      (b % (m.natAbs : Int)) ^ e.toNat % (m.natAbs : Int) := by
    rw [Int.natCast_emod, Int.natCast_pow, Int.toNat_of_nonneg hx]
  rw [hcast, emod_pow_emod]

/-- the result lies in `[0, |m|)` -/
theorem powMod_range (b e m r : Int) (hm : m ≠ 0) (he : 0 ≤ e) (h : powMod b e m = some r) :
    0 ≤ r ∧ r < m.natAbs := by
  rw [powMod_nonneg b e m hm he] at h
  injection h with h
  subst h
  exact ⟨Int.emod_nonneg _ (by omega), Int.emod_lt_of_pos _ (by omega)⟩

theorem powMod_zero_modulus (b e : Int) : powMod b e 0 = none := by simp [powMod]

/-- the invariant of the extended Euclidean loop: each remainder `r` is ≡ `s · a'` modulo `M` -/
theorem modInverse_go_inv (a' M : Int) : ∀ (fuel : Nat) (r0 r1 s0 s1 : Int),
    M ∣ r0 - s0 * a' → M ∣ r1 - s1 * a' →
    M ∣ (modInverse.go fuel r0 r1 s0 s1).1 - (modInverse.go fuel r0 r1 s0 s1).2 * a' := by
  intro fuel
  induction fuel with
  | zero => intro r0 r1 s0 s1 h0 _; simpa [modInverse.go] using h0
  | succ fuel ih =>
    intro r0 r1 s0 s1 h0 h1
    unfold modInverse.go
    by_cases hr : r1 = 0
    · simpa [hr] using h0
    · simp only [hr, if_false]
      apply ih _ _ _ _ h1
      have e : r0 - r0 / r1 * r1 - (s0 - r0 / r1 * s1) * a' = (r0 - s0 * a') - r0 / r1 * (r1 - s1 * a') := by
        simp only [Int.sub_mul, Int.mul_sub, Int.mul_assoc]; omega
      rw [e]
      exact Int.dvd_sub h0 (Int.dvd_mul_of_dvd_right h1)

/-- **modular inverse**: whenever `modInverse a m` answers, the answer is an inverse of `a` modulo `m`, in `[0, m)` -/
theorem modInverse_spec (a : Int) (m i : Nat) (hm : 0 < m) (h : modInverse a m = some i) :
    (a * (i : Int)) % (m : Int) = 1 % (m : Int) ∧ i < m := by
  unfold modInverse at h
  dsimp only at h
  have hM : (0 : Int) < m := by omega
  have hinv := modInverse_go_inv (a % (m : Int)) m (2 * (Nat.log2 m + 2) + 4) (a % (m : Int)) m 1 0
    (by simp) (by simp)
  generalize modInverse.go (2 * (Nat.log2 m + 2) + 4) (a % (m : Int)) m 1 0 = gs at h hinv
  obtain ⟨g, s⟩ := gs
  dsimp only at h hinv
  by_cases hg : g = 1
  · simp only [hg, if_true, Option.some.injEq] at h
    subst hg
    have hs0 : 0 ≤ s % (m : Int) := Int.emod_nonneg _ (by omega)
    have hs1 : s % (m : Int) < m := Int.emod_lt_of_pos _ hM
    have hi : (i : Int) = s % (m : Int) := by rw [← h]; exact Int.toNat_of_nonneg hs0
    refine ⟨?_, by omega⟩
    rw [hi]
    -- `hinv : m ∣ 1 - s * (a % m)`: move the `% m` from `s` to `a`, then read the divisibility as a congruence
    have h1 : (a * (s % (m : Int))) % (m : Int) = (s * (a % (m : Int))) % (m : Int) := by
      rw [Int.mul_emod, Int.emod_emod_of_dvd _ (Int.dvd_refl _), Int.mul_comm]
      conv => rhs; rw [Int.mul_emod, Int.emod_emod_of_dvd _ (Int.dvd_refl _)]
    rw [h1]
    have h2 : (1 - s * (a % (m : Int))) % (m : Int) = 0 := Int.emod_eq_zero_of_dvd hinv
    exact (Int.emod_eq_emod_iff_emod_sub_eq_zero.mpr h2).symm
  · simp only [hg, if_false] at h
    by_cases h1 : m = 1
    · simp only [h1, if_true, Option.some.injEq] at h
      subst h; subst h1
      simp
    · simp [h1] at h

/-- a negative exponent uses an inverse of the base: `r = inv^|e| mod |m|` with `base · inv ≡ 1 (mod |m|)` -/
theorem powMod_neg (b e m r : Int) (hm : m ≠ 0) (he : e < 0) (h : powMod b e m = some r) :
    ∃ inv : Nat, (b * (inv : Int)) % (m.natAbs : Int) = 1 % (m.natAbs : Int) ∧ r = (inv : Int) ^ e.natAbs % (m.natAbs : Int) := by
  unfold powMod at h
  have hM : m.natAbs ≠ 0 := by omega
  have hMpos : 0 < m.natAbs := by omega
  have hne : ¬ (0 ≤ e) := by omega
  simp only [hM, if_false, hne] at h
  cases hi : modInverse b m.natAbs with
  | none => simp [hi] at h
  | some inv =>
    simp only [hi, Option.some.injEq] at h
    refine ⟨inv, (modInverse_spec b m.natAbs inv hMpos hi).1, ?_⟩
    rw [← h, powModNat_spec _ _ _ hMpos, Int.natCast_emod, Int.natCast_pow]

example : powMod 3 200 13 = some 9 ∧ powMod (-2) 5 7 = some 3 ∧ powMod 3 (-1) 7 = some 5 ∧ powMod 2 (-1) 4 = none := by
  decide +kernel

end UH.C11
