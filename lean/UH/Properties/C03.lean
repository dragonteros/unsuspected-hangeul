/-
C03 — unneeded sub-expressions are never evaluated.

A coroutine starts the evaluation of a delayed expression only by a `force` node naming it, or by returning it as its result
(a tail return).  The
theorems show, for each position the specification declares non-strict, that the
coroutine's tree contains no `force` of it: the result is *literally the same tree*
whatever delayed expression (evaluating to anything, raising, diverging) sits there.
The general statement, about runs of the machine, is `unforced_irrelevant` (the simulation of `Proofs/Unforced.lean`).
-/
import UH.Proofs.Unforced
import UH.Properties.C02
namespace UH.C03
open UH Comp

/-- **Boolean call**: the unselected branch does not occur in the result at all -/
theorem bool_true_ignores_second (sp : Span) (x y y' : Arg) :
    applyCallee (.bool true) sp [x, y] = applyCallee (.bool true) sp [x, y'] := by
  rw [C02.apply_bool, C02.apply_bool]; rfl

theorem bool_false_ignores_first (sp : Span) (x x' y : Arg) :
    applyCallee (.bool false) sp [x, y] = applyCallee (.bool false) sp [x', y] := by
  rw [C02.apply_bool, C02.apply_bool]; rfl

/-- **Boolean ㄱ (and)**: once an operand is false the remaining operands are never forced -/
theorem and_short_circuit (sp : Span) (rest rest' : List Arg) :
    bAll sp (.strict (.bool false) :: rest) = bAll sp (.strict (.bool false) :: rest') := rfl

/-- with a true head, `and` continues with the tail only -/
theorem and_true_continues (sp : Span) (rest : List Arg) :
    bAll sp (.strict (.bool true) :: rest) = bAll sp rest := rfl

/-- **Boolean ㄷ (or)**: once an operand is true the remaining operands are never forced -/
theorem or_short_circuit (sp : Span) (rest rest' : List Arg) :
    bAny sp (.strict (.bool true) :: rest) = bAny sp (.strict (.bool true) :: rest') := rfl

theorem or_false_continues (sp : Span) (rest : List Arg) :
    bAny sp (.strict (.bool false) :: rest) = bAny sp rest := rfl

/-- the Boolean forms of ㄱ / ㄷ are these short-circuit loops -/
theorem multiply_bool_is_and (sp : Span) (b : Bool) (rest : List Arg) :
    bMultiply sp (.strict (.bool b) :: rest) = bAll sp (.strict (.bool b) :: rest) := rfl

theorem add_bool_is_or (sp : Span) (b : Bool) (rest : List Arg) :
    bAdd sp (.strict (.bool b) :: rest) = bAny sp (.strict (.bool b) :: rest) := rfl

/-- **list construction forces nothing**: `ㅁㄹ` returns its delayed arguments as they are -/
theorem list_elements_lazy (sp : Span) (argv : List Arg) : bList sp argv = ret (.strict (.list argv)) := rfl

/-- **list indexing does not look at the other elements** — an instance: a two-element list indexed at 0 yields the same
coroutine whatever the second element is -/
theorem list_index_ignores_others (sp : Span) (a b b' : Arg) :
    applyCallee (.list [a, b]) sp [.strict (.int 0)] = applyCallee (.list [a, b']) sp [.strict (.int 0)] := by
  rw [C02.apply_list, C02.apply_list]; rfl

/-- the length of a list does not look at its elements -/
theorem len_ignores_elements (sp : Span) (xs ys : List Arg) (h : xs.length = ys.length) :
    bLen sp [.strict (.list xs)] = bLen sp [.strict (.list ys)] := by
  show retV (.int xs.length) = retV (.int ys.length)
  rw [h]

/-- calling a function object begins by fetching the object (`getFn`) and forces no argument before that; that the
closure case then only stores the delayed arguments in the new environment is `C02.apply_closure` -/
theorem closure_call_forces_no_argument (f : FId) (sp : Span) (args : List Arg) :
    ∃ k, applyCallee (.fn f) sp args = getFn f k := ⟨_, C02.apply_closure f sp args⟩

/-- the selection step of an argument reference — the expression `interpret` reaches once the position `i` is known —
returns the argument at a position inside the frame; the statement is about that expression on its own -/
theorem argRef_selects_one (frame : List Arg) (i : Nat) (x : Arg) (h : frame[i]? = some x) (sp : Span) :
    (if (0 : Int) ≤ (i : Int) ∧ (i : Int) < frame.length then
        (match frame[((i : Int)).toNat]? with | some x => (ret x : Comp Arg) | none => bottom)
      else Comp.throw (builtinErr .outOfRange sp)) = ret x := by
  have hlt : i < frame.length := (List.getElem?_eq_some_iff.mp h).1
  have : (0 : Int) ≤ (i : Int) ∧ (i : Int) < frame.length := ⟨by omega, by omega⟩
  simp [this, h]

/-- **`ㄴ` stops at the first difference**: operands after it are never forced -/
theorem equals_stops_at_difference (k0 k : Key) (h : (k0 == k) = false) (rest rest' : List Arg) (v : Val) :
    (match bEqualsGo (some k0) (.strict v :: rest) with
     | .call (.keyOf _) kk _ => kk (.key k)
     | c => c) =
    (match bEqualsGo (some k0) (.strict v :: rest') with
     | .call (.keyOf _) kk _ => kk (.key k)
     | c => c) := by
  simp [bEqualsGo, callKey, h, retV]

/-- **the handler of ㅅㄷ is not evaluated unless the body raises**: on the normal path the result does not depend
on the handler -/
theorem try_handler_lazy (sp : Span) (body h h' : Arg) (r : Res) :
    (match bTry isBuiltinName sp [body, h] with | .call _ k _ => k r | c => c) =
    (match bTry isBuiltinName sp [body, h'] with | .call _ k _ => k r | c => c) := by
  cases r <;> rfl

/-- **an expression whose evaluation is never started is irrelevant.**  Take any machine state `m` (any program, at
any point of its evaluation), any delayed expression `u` and any number of steps `n`.  If the run does not start
evaluating `u`, then replacing what `u` delays by *anything* — an expression that raises, never terminates, or
would perform I/O, in any environment — leaves the status (printed result / exception / limit), the world
(standard input and output, files), all frames, the observer's events and the set of started expressions
unchanged; the stores differ only in the expression and environment recorded for `u`. -/
theorem unforced_irrelevant (u : TId) (e : AST) (env : Env) (n : Nat) (m : MState) (hu : u ∉ (runN n m).starts) :
    let r := runN n m
    let r' := runN n { m with store := Unforced.patchCell m.store u e env }
    r'.status = r.status ∧ r'.world = r.world ∧ r'.head = r.head ∧ r'.tail = r.tail ∧ r'.events = r.events ∧
      r'.starts = r.starts ∧ r'.depth = r.depth ∧ Unforced.StoreRel u r.store r'.store :=
  Unforced.unforced_irrelevant u e env n m hu

/-- where the machine reads what a cell delays — the start of its evaluation, which is logged (`Unforced.react_rel`,
`perform_sim`: nowhere else) —, a cell that already has a value, or any cell other than `u`, yields the same frame whatever `u` delays -/
theorem newFrame_reads_only_started (u t : TId) (s s' : Store) (h : Unforced.StoreRel u s s')
    (ht : t ≠ u ∨ (s.getCell t).value ≠ none) : newFrame s' t = newFrame s t :=
  Unforced.newFrame_rel h t ht

/-- non-vacuity: a run that allocates a delayed expression (here the marker `bomb`) and finishes without starting it -/
def demoRun : MState :=
  initState initStore default (.newThunk .bomb ⟨[], []⟩ fun _ => .ret (.arg (.strict (.int 1))))

example : initStore.cells.size ∉ (runN 5 demoRun).starts := by decide +kernel

end UH.C03
