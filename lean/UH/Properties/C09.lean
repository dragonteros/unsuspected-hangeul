/-
C09 — parsing is the documented postfix stack machine: every word acts on the stack as documented or is rejected
at its own span, and printing a tree in postfix and parsing it returns the tree.  The rejection is never
`malformed` on tokenizer output: `C01.tokens_wellformed`.
-/
import UH.Proofs.Tokenize
import UH.Properties.C08
namespace UH.C09
open UH

def Word.toSyms : Word → List Sym
  | .lit ds => ds.map Sym.d
  | .h ds => Sym.h :: ds.map Sym.d
  | .o ds => Sym.o :: ds.map Sym.d

theorem classify_toSyms (w : Word) (hw : ∀ ds, w = .lit ds → ds ≠ []) :
    classify (Word.toSyms w) = some w := by
  cases w with
  | lit ds =>
    cases ds with
    | nil => exact absurd rfl (hw [] rfl)
    | cons d ds => simp [Word.toSyms, classify, symDigits_map]
  | h ds => simp [Word.toSyms, classify, symDigits_map]
  | o ds => simp [Word.toSyms, classify, symDigits_map]

def tok (w : Word) (sp : Span) : Token := ⟨Word.toSyms w, sp⟩

mutual
/-- postfix printing of a tree, as tokens carrying the node spans -/
def unparse : AST → List Token
  | .lit n sp => [tok (.lit (encodeNumber n)) sp]
  | .funRef r sp => [tok (.lit (encodeNumber r)) sp, tok (.o []) sp]
  | .argRef a r sp => unparse a ++ [tok (.o (encodeNumber r)) sp]
  | .funDef b sp => unparse b ++ [tok (.h []) sp]
  | .call f args sp => unparseList args ++ unparse f ++ [tok (.h (encodeNumber args.length)) sp]
  | .bomb => []
def unparseList : List AST → List Token
  | [] => []
  | a :: as => unparse a ++ unparseList as
end

mutual
/-- trees the parser can produce (no C03 marker) -/
def noBomb : AST → Prop
  | .lit _ _ => True
  | .funRef _ _ => True
  | .argRef a _ _ => noBomb a
  | .funDef b _ => noBomb b
  | .call f args _ => noBomb f ∧ noBombList args
  | .bomb => False
def noBombList : List AST → Prop
  | [] => True
  | a :: as => noBomb a ∧ noBombList as
end

theorem parseTokens_append (s : List AST) (w1 w2 : List Token) (s' : List AST) :
    parseTokens s w1 = .ok s' → parseTokens s (w1 ++ w2) = parseTokens s' w2 := by
  induction w1 generalizing s with
  | nil => intro h; simp [parseTokens] at h; subst h; rfl
  | cons w ws ih =>
    intro h
    simp only [parseTokens, List.cons_append] at h ⊢
    cases hs : parseToken w s with
    | ok s1 => simp [hs] at h ⊢; exact ih s1 h
    | error e => simp [hs] at h

theorem parseToken_tok (w : Word) (hw : w ≠ .lit []) (sp : Span) (s : List AST) :
    parseToken (tok w sp) s = parseWord w sp s := by
  simp only [parseToken, tok, classify_toSyms w fun ds h hds => hw (hds ▸ h)]

theorem parseToken_lit (n : Int) (sp : Span) (s : List AST) :
    parseToken (tok (.lit (encodeNumber n)) sp) s = .ok (s ++ [.lit n sp]) := by
  rw [parseToken_tok _ fun h => C08.encode_ne_nil n (Word.lit.inj h)]
  simp [parseWord, C08.parse_encode]

theorem parseToken_o_nil (sp : Span) (s : List AST) (n : Int) (sp' : Span) :
    parseToken (tok (.o []) sp) (s ++ [.lit n sp']) = .ok (s ++ [.funRef n sp]) := by
  rw [parseToken_tok _ (by simp)]
  simp [parseWord]

theorem parseToken_h_nil (sp : Span) (s : List AST) (b : AST) :
    parseToken (tok (.h []) sp) (s ++ [b]) = .ok (s ++ [.funDef b sp]) := by
  rw [parseToken_tok _ (by simp)]
  simp [parseWord]

theorem parseToken_o (r : Int) (sp : Span) (s : List AST) (a : AST) :
    parseToken (tok (.o (encodeNumber r)) sp) (s ++ [a]) = .ok (s ++ [.argRef a r sp]) := by
  rw [parseToken_tok _ (by simp)]
  cases he : encodeNumber r with
  | nil => exact absurd he (C08.encode_ne_nil r)
  | cons d ds => simp [parseWord, ← he, C08.parse_encode]

theorem parseToken_h (sp : Span) (s : List AST) (f : AST) (args : List AST) :
    parseToken (tok (.h (encodeNumber args.length)) sp) (s ++ args ++ [f])
      = .ok (s ++ [.call f args sp]) := by
  rw [parseToken_tok _ (by simp)]
  cases he : encodeNumber (args.length : Int) with
  | nil => exact absurd he (C08.encode_ne_nil _)
  | cons d ds =>
    have h1 : ¬ ((args.length : Int) < 0) := by omega
    simp [parseWord, ← he, C08.parse_encode, h1]

mutual
/-- **round trip**: parsing the postfix print of `t` pushes exactly `t` -/
theorem parse_unparse (t : AST) (ht : noBomb t) :
    ∀ s, parseTokens s (unparse t) = .ok (s ++ [t]) := by
  cases t with
  | lit n sp => intro s; simp [unparse, parseTokens, parseToken_lit]
  | funRef r sp =>
    intro s
    simp [unparse, parseTokens, parseToken_lit, parseToken_o_nil]
  | argRef a r sp =>
    intro s
    have ih := parse_unparse a (by simpa [noBomb] using ht) s
    simp only [unparse]
    rw [parseTokens_append _ _ _ _ ih]
    simp [parseTokens, parseToken_o]
  | funDef b sp =>
    intro s
    have ih := parse_unparse b (by simpa [noBomb] using ht) s
    simp only [unparse]
    rw [parseTokens_append _ _ _ _ ih]
    simp [parseTokens, parseToken_h_nil]
  | call f args sp =>
    intro s
    simp only [noBomb] at ht
    have ih1 := parse_unparseList args ht.2 s
    have ih2 := parse_unparse f ht.1 (s ++ args)
    simp only [unparse, List.append_assoc]
    rw [parseTokens_append _ _ _ _ ih1, parseTokens_append _ _ _ _ ih2]
    simp only [parseTokens, parseToken_h]
  | bomb => simp [noBomb] at ht
theorem parse_unparseList (ts : List AST) (ht : noBombList ts) :
    ∀ s, parseTokens s (unparseList ts) = .ok (s ++ ts) := by
  cases ts with
  | nil => intro s; simp [unparseList, parseTokens]
  | cons a as =>
    intro s
    simp only [noBombList] at ht
    have ih1 := parse_unparse a ht.1 s
    have ih2 := parse_unparseList as ht.2 (s ++ [a])
    simp only [unparseList]
    rw [parseTokens_append _ _ _ _ ih1, ih2]; simp
end

/-- **a text yields as many trees as its words leave on the stack**: printing a
forest and parsing it from the empty stack returns the forest -/
theorem parse_forest (ts : List AST) (ht : noBombList ts) :
    parseTokens [] (unparseList ts) = .ok ts := by
  simpa using parse_unparseList ts ht []

/-- stack-height effect of a word: literal +1, `ㅎ`/`ㅇ`/`ㅇm` ±0, `ㅎn` −n -/
def Word.effect : Word → Int
  | .lit _ => 1
  | .h [] => 0
  | .h (d :: ds) => - parseNumber (d :: ds)
  | .o _ => 0

theorem parseWord_cases (w : Word) (sp : Span) (s : List AST) :
    (∃ k, parseWord w sp s = .error ⟨k, sp⟩ ∧ k ≠ .malformed) ∨
    (∃ r t, parseWord w sp s = .ok (r ++ [t]) ∧ t.span = sp ∧
      (r.length : Int) + 1 = s.length + Word.effect w) := by
  -- the stack is `[]` or `s ++ [a]` (its top is its last element)
  rcases w with ds | ds | ds
  · exact .inr ⟨_, _, rfl, rfl, by simp [Word.effect]⟩
  · rcases ds with _ | ⟨d, ds⟩ <;> rcases s.eq_nil_or_concat with rfl | ⟨s, a, rfl⟩ <;>
      simp only [parseWord, List.concat_eq_append, List.getLast?_concat, List.dropLast_concat]
    · exact .inl ⟨.noBody, rfl, nofun⟩
    · exact .inr ⟨_, _, rfl, rfl, by simp [Word.effect]⟩
    · split                                                                 -- `ㅎn`, empty stack
      · exact .inl ⟨.negArity, rfl, nofun⟩
      · exact .inl ⟨.noFun, rfl, nofun⟩
    · split                                                                 -- `ㅎn`, top `a` is the callee
      · exact .inl ⟨.negArity, rfl, nofun⟩
      · split
        · exact .inl ⟨.fewArgs, rfl, nofun⟩
        · exact .inr ⟨_, _, rfl, rfl, by simp [Word.effect]; omega⟩         -- `n` arguments and the callee go, the call comes
  · rcases ds with _ | ⟨d, ds⟩ <;> rcases s.eq_nil_or_concat with rfl | ⟨s, a, rfl⟩ <;>
      simp only [parseWord, List.concat_eq_append, List.getLast?_concat, List.dropLast_concat]
    · exact .inl ⟨.noRef, rfl, nofun⟩
    · cases a with                                                          -- `ㅇ`: the top must be a literal
      | lit n sp' => exact .inr ⟨_, _, rfl, rfl, by simp [Word.effect]⟩
      | _ => exact .inl ⟨.refNotLit, rfl, nofun⟩
    · exact .inl ⟨.noArg, rfl, nofun⟩
    · exact .inr ⟨_, _, rfl, rfl, by simp [Word.effect]⟩

/-- **totality + stack effect**: a word either is rejected with a syntax error carrying exactly
its own span, or changes the stack height by its documented effect -/
theorem parseWord_total (w : Word) (sp : Span) (s : List AST) :
    (∃ e, parseWord w sp s = .error e ∧ e.span = sp ∧ e.kind ≠ .malformed) ∨
    (∃ s', parseWord w sp s = .ok s' ∧ (s'.length : Int) = s.length + Word.effect w) := by
  rcases parseWord_cases w sp s with ⟨k, h, hk⟩ | ⟨r, t, h, _, hl⟩
  · exact .inl ⟨_, h, rfl, hk⟩
  · exact .inr ⟨_, h, by simpa using hl⟩

/-- every node created by a word records exactly that word's span -/
theorem parseWord_span (w : Word) (sp : Span) (s s' : List AST) (h : parseWord w sp s = .ok s') :
    ∃ r t, s' = r ++ [t] ∧ t.span = sp := by
  rcases parseWord_cases w sp s with ⟨k, h', _⟩ | ⟨r, t, h', ht, _⟩
  · rw [h'] at h; cases h
  · rw [h'] at h; cases h; exact ⟨r, t, rfl, ht⟩

-- non-vacuity: `ㄴ ㄴㄱ ㄹ ㅎ ㅎㄷ` (docs/spec.md:87) round-trips
example : parseTokens [] (unparse (.call (.funDef (.lit 3 ⟨0,6,7⟩) ⟨0,8,9⟩)
    [.lit 1 ⟨0,0,1⟩, .lit (-1) ⟨0,2,4⟩] ⟨0,10,12⟩))
  = .ok [.call (.funDef (.lit 3 ⟨0,6,7⟩) ⟨0,8,9⟩) [.lit 1 ⟨0,0,1⟩, .lit (-1) ⟨0,2,4⟩] ⟨0,10,12⟩] :=
  parse_unparse _ (by simp [noBomb, noBombList]) []

end UH.C09
