/-
C13 — each delayed expression is evaluated at most once (call-by-need).

Generic in the coroutines.  A delayed expression is a memo cell; `starts` logs
every time a frame begins to *interpret* a cell (as opposed to being served from it).
-/
import UH.Proofs.MachineInv
namespace UH.C13
open UH

/-- **a completed cell is never re-evaluated by a demand**: the waiting coroutine continues with
the cell's value; stack, start log and observer log are unchanged -/
theorem force_completed_value (m : MState) (f : Frame) (rest : List Frame) (t : TId)
    (k : Val → Comp Res) (ke : ErrV → Comp Res) (v : Val)
    (hs : m.status = .running) (ht : m.tail = f :: rest) (hr : m.resp = none)
    (hc : f.cur = .force t k ke) (hv : (m.store.getCell t).value = some (.ok v)) :
    (step m).tail = { f with cur := k v } :: rest ∧ (step m).starts = m.starts ∧
      (step m).events = m.events ∧ (step m).store = m.store := by
  unfold step
  simp [hs, ht, hr, hc, hv]

/-- **a failed cell fails identically each time its value is needed again** -/
theorem force_completed_error (m : MState) (f : Frame) (rest : List Frame) (t : TId)
    (k : Val → Comp Res) (ke : ErrV → Comp Res) (e : ErrV)
    (hs : m.status = .running) (ht : m.tail = f :: rest) (hr : m.resp = none)
    (hc : f.cur = .force t k ke) (hv : (m.store.getCell t).value = some (.error e)) :
    (step m).tail = { f with cur := ke e } :: rest ∧ (step m).starts = m.starts ∧
      (step m).events = m.events ∧ (step m).store = m.store := by
  unfold step
  simp [hs, ht, hr, hc, hv]

/-- the same for the head coroutine -/
theorem force_completed_head (m : MState) (t : TId) (k : Val → Comp Res) (ke : ErrV → Comp Res)
    (o : Outcome) (hs : m.status = .running) (ht : m.tail = []) (hr : m.resp = none)
    (hc : m.head.cur = .force t k ke) (hv : (m.store.getCell t).value = some o) :
    (step m).head = { m.head with cur := match o with | .ok v => k v | .error e => ke e } ∧
      (step m).tail = [] ∧ (step m).starts = m.starts := by
  unfold step
  cases o <;> simp [hs, ht, hr, hc, hv]

/-- a frame created for a completed cell (tail return of an already evaluated expression) does not
interpret it again: its coroutine is the cell's content -/
theorem newFrame_completed (s : Store) (t : TId) (o : Outcome) (h : (s.getCell t).value = some o) :
    (newFrame s t).cur = (match o with | .ok v => .ret (.arg (.strict v)) | .error e => .throw e) ∧
    (newFrame s t).konts = [] := by
  cases o <;> simp [newFrame, h]

/-- **an interpretation only starts on a cell that is not completed** -/
theorem starts_only_fresh (m : MState) (hs : m.status = .running) :
    (step m).starts = m.starts ∨
      ∃ t, (step m).starts = t :: m.starts ∧ (m.store.getCell t).value = none :=
  step_starts m

/-- the `k`-th cell on the requestor chain of `t` (the expressions whose frames were replaced by tail returns) -/
def hop (s : Store) (t : TId) : Nat → Option TId
  | 0 => some t
  | k + 1 => (hop s t k).bind (fun u => (s.getCell u).requestor)

theorem hop_setValue (s : Store) (t a : TId) (v : Outcome) : ∀ k, hop (s.setValue a v) t k = hop s t k := by
  intro k
  induction k with
  | zero => rfl
  | succ k ih =>
    simp only [hop, ih]
    cases hop s t k with
    | none => rfl
    | some u => simp [requestor_setValue]

theorem hop_succ (s : Store) (t : TId) (k : Nat) : hop s t (k + 1) = (s.getCell t).requestor.bind (hop s · k) := by
  induction k with
  | zero => simp [hop]
  | succ k ih => rw [hop, ih]; cases (s.getCell t).requestor <;> rfl

theorem hop_succ' (s : Store) (t r : TId) (hr : (s.getCell t).requestor = some r) :
    ∀ k, hop s t (k + 1) = hop s r k := by
  intro k; rw [hop_succ, hr]; rfl

theorem resolve_value (v : Outcome) (fuel : Nat) (s : Store) (t u : TId) :
    ((s.resolve fuel t v).getCell u).value = (s.getCell u).value ∨
      ((∃ k, hop s t k = some u) ∧ ((s.resolve fuel t v).getCell u).value = some v) := by
  induction fuel generalizing s t with
  | zero => exact .inl rfl
  | succ fuel ih =>
    -- one layer of `resolve`: write `t` (hop 0), then resolve the requestor `r` of `t` in the store so obtained
    have hset : ((s.setValue t v).getCell u).value = (s.getCell u).value ∨
        ((∃ k, hop s t k = some u) ∧ ((s.setValue t v).getCell u).value = some v) := by
      rw [value_setValue]
      split
      next h => exact .inr ⟨⟨0, by rw [h.1]; rfl⟩, rfl⟩
      next => exact .inl rfl
    simp only [Store.resolve]
    cases hr : (s.getCell t).requestor with
    | none => exact hset
    | some r =>
      rcases ih (s.setValue t v) r with h | ⟨⟨k, hk⟩, h⟩
      · rw [h]; exact hset
      · -- `u` is `k` hops from `r`, hence `k + 1` hops from `t` (writing values does not move the chain)
        exact .inr ⟨⟨k + 1, by rw [hop_succ' s t r hr, ← hop_setValue s r t v, hk]⟩, h⟩

/-- `CacheBox.resolve` only ever writes the one outcome `v` -/
theorem resolve_writes_only (v : Outcome) : ∀ (fuel : Nat) (s : Store) (t u : TId),
    ((s.resolve fuel t v).getCell u).value = some v ∨
      ((s.resolve fuel t v).getCell u).value = (s.getCell u).value :=
  fun fuel s t u => (resolve_value v fuel s t u).symm.imp_left (·.2)

/-- **every expression on the tail-call chain receives the final outcome**: `resolve` with fuel `n` writes `v` into the
cell itself and into each of the next `n − 1` cells of its requestor chain (all that exist) -/
theorem resolve_chain (v : Outcome) : ∀ (fuel : Nat) (s : Store) (t : TId) (k : Nat) (u : TId),
    k < fuel → hop s t k = some u → (s.cells.get? u).isSome →
    ((s.resolve fuel t v).getCell u).value = some v := by
  intro fuel
  induction fuel with
  | zero => intro s t k u hk; omega
  | succ fuel ih =>
    intro s t k u hk hhop hsome
    simp only [Store.resolve]
    cases k with
    | zero =>
      -- the cell itself is written first; every later write on the chain writes the same outcome
      cases hhop
      have hset : ((s.setValue t v).getCell t).value = some v := by rw [value_setValue]; simp [hsome]
      cases (s.getCell t).requestor with
      | none => exact hset
      | some r => exact (resolve_writes_only v fuel _ r t).elim id (·.trans hset)
    | succ k =>
      cases hr : (s.getCell t).requestor with
      | none => rw [hop_succ, hr] at hhop; cases hhop
      | some r =>
        refine ih (s.setValue t v) r k u (by omega) ?_ ?_
        · rw [hop_setValue, ← hop_succ' s t r hr k]; exact hhop
        · rw [isSome_get?_setValue]; exact hsome

/-- **the finished frame's own cell holds the outcome** -/
theorem resolve_sets_own (s : Store) (fuel : Nat) (t : TId) (v : Outcome) (ht : (s.cells.get? t).isSome) :
    ((s.resolve (fuel + 1) t v).getCell t).value = some v :=
  resolve_chain v _ s t 0 t (Nat.succ_pos _) rfl ht

/-- in particular the direct requestor receives the outcome -/
theorem resolve_sets_requestor (s : Store) (fuel : Nat) (t r : TId) (v : Outcome)
    (hr : (s.getCell t).requestor = some r) (hlt : (s.cells.get? r).isSome) :
    ((s.resolve (fuel + 2) t v).getCell r).value = some v :=
  resolve_chain v _ s t 1 r (by omega) (by simp [hop, hr]) hlt

/-- **the outcome delivered to the waiting user is the outcome of the finished frame** -/
theorem finish_delivers (m : MState) (f : Frame) (rest : List Frame) (r : Outcome) :
    (finishFrame m f rest r).resp = some r ∧ (finishFrame m f rest r).tail = rest ∧
      (finishFrame m f rest r).starts = m.starts := by
  simp [finishFrame]

/-- in the evaluator: when a frame delivers its outcome, the cell it evaluated and every cell at most `size` hops away on
its requestor chain (`resolve` runs with fuel `size + 1`) — all expressions whose frames it replaced by tail returns — hold that outcome afterwards -/
theorem finish_fills_chain (m : MState) (f : Frame) (rest : List Frame) (r : Outcome) (t : TId) (k : Nat) (u : TId)
    (hb : f.box = some t) (hk : k ≤ m.store.cells.size) (hhop : hop m.store t k = some u)
    (hu : (m.store.cells.get? u).isSome) :
    ((finishFrame m f rest r).store.getCell u).value = some r := by
  simp only [finishFrame, hb]
  exact resolve_chain r _ m.store t k u (by omega) hhop hu

end UH.C13
