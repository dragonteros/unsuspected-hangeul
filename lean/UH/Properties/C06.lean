/-
C06 — equality is a real equivalence on values and dictionaries key by it.

`ㄴ` compares canonical keys (`Key`) with `Key.beq`; dictionaries store entries
under those keys.
-/
import UH.Model.Interp
namespace UH.C06
open UH

mutual
theorem beq_eq : ∀ a b : Key, Key.beq a b = true → a = b
  | .num r i, b => by
    cases b <;> simp [Key.beq]
  | .bool x, b => by cases b <;> simp [Key.beq]
  | .str x, b => by cases b <;> simp [Key.beq]
  | .bytes x, b => by cases b <;> simp [Key.beq]
  | .nil, b => by cases b <;> simp [Key.beq]
  | .list xs, b => by
    cases b <;> simp [Key.beq]
    exact beqList_eq xs _
  | .err xs, b => by
    cases b <;> simp [Key.beq]
    exact beqList_eq xs _
  | .dict xs, b => by
    cases b <;> simp [Key.beq]
    exact beqPairs_eq xs _
  | .io i xs, b => by
    cases b <;> simp [Key.beq]
    intro h1 h2; exact ⟨h1, beqList_eq xs _ h2⟩
  | .fn f, b => by cases b <;> simp [Key.beq]
theorem beqList_eq : ∀ a b : List Key, Key.beqList a b = true → a = b
  | [], b => by cases b <;> simp [Key.beqList]
  | x :: xs, b => by
    cases b with
    | nil => simp [Key.beqList]
    | cons y ys =>
      simp only [Key.beqList, Bool.and_eq_true, List.cons.injEq]
      intro ⟨h1, h2⟩
      exact ⟨beq_eq x y h1, beqList_eq xs ys h2⟩
theorem beqPairs_eq : ∀ a b : List (Key × Key), Key.beqPairs a b = true → a = b
  | [], b => by cases b <;> simp [Key.beqPairs]
  | (x, x') :: xs, b => by
    cases b with
    | nil => simp [Key.beqPairs]
    | cons y ys =>
      obtain ⟨y, y'⟩ := y
      simp only [Key.beqPairs, Bool.and_eq_true, List.cons.injEq, Prod.mk.injEq]
      intro ⟨⟨h1, h2⟩, h3⟩
      exact ⟨⟨beq_eq x y h1, beq_eq x' y' h2⟩, beqPairs_eq xs ys h3⟩
end

mutual
theorem beq_refl : ∀ a : Key, Key.beq a a = true
  | .num r i => by simp [Key.beq]
  | .bool x => by simp [Key.beq]
  | .str x => by simp [Key.beq]
  | .bytes x => by simp [Key.beq]
  | .nil => by simp [Key.beq]
  | .list xs => by simp [Key.beq, beqList_refl xs]
  | .err xs => by simp [Key.beq, beqList_refl xs]
  | .dict xs => by simp [Key.beq, beqPairs_refl xs]
  | .io i xs => by simp [Key.beq, beqList_refl xs]
  | .fn f => by simp [Key.beq]
theorem beqList_refl : ∀ a : List Key, Key.beqList a a = true
  | [] => rfl
  | x :: xs => by simp [Key.beqList, beq_refl x, beqList_refl xs]
theorem beqPairs_refl : ∀ a : List (Key × Key), Key.beqPairs a a = true
  | [] => rfl
  | (x, x') :: xs => by simp [Key.beqPairs, beq_refl x, beq_refl x', beqPairs_refl xs]
end

/-- **`ㄴ`'s comparison decides equality of canonical keys** -/
theorem beq_iff_eq (a b : Key) : (a == b) = true ↔ a = b :=
  ⟨beq_eq a b, fun h => h ▸ beq_refl a⟩

instance : LawfulBEq Key where
  eq_of_beq := beq_eq _ _
  rfl := beq_refl _

/-- hence it is an equivalence relation -/
theorem eq_refl (a : Key) : (a == a) = true := beq_refl a
theorem eq_symm (a b : Key) (h : (a == b) = true) : (b == a) = true := by
  rw [beq_iff_eq] at *; exact h.symm
theorem eq_trans (a b c : Key) (h1 : (a == b) = true) (h2 : (b == c) = true) : (a == c) = true := by
  rw [beq_iff_eq] at *; exact h1.trans h2

/-- **it never reports two different integers as equal** (−1 is not −2, whatever their host hashes) -/
theorem int_keys (a b : Int) : ((Num.int a).key == (Num.int b).key) = true ↔ a = b := by
  rw [beq_iff_eq]
  simp [Num.key, F64.intNumKey]

/-- keys of different kinds differ, for six pairs of kinds: integer / string, integer / Boolean, string / bytes,
empty value / Boolean, list / exception, string / list -/
theorem kinds_differ (n : Int) (s : String) (b : Bool) (bs : List UInt8) (ks : List Key) :
    (intKey n == Key.str s) = false ∧ (intKey n == Key.bool b) = false ∧ (Key.str s == Key.bytes bs) = false ∧
    (Key.nil == Key.bool b) = false ∧ (Key.list ks == Key.err ks) = false ∧ (Key.str s == Key.list ks) = false := by
  refine ⟨rfl, rfl, rfl, rfl, rfl, rfl⟩

/-- functions compare by identity -/
theorem fn_keys (f g : FId) : (Key.fn f == Key.fn g) = true ↔ f = g := by
  rw [beq_iff_eq]; simp

/-- lists compare by content -/
theorem list_keys (a b : List Key) : (Key.list a == Key.list b) = true ↔ a = b := by
  rw [beq_iff_eq]; simp

/-- the value a dictionary built from `entries` (in order) must return for `k`: that of the last
entry whose key equals `k` -/
def lastValueFrom (init : Option Arg) (entries : List (Val × Key × Arg)) (k : Key) : Option Arg :=
  entries.foldl (fun acc e => if e.2.1 == k then some e.2.2 else acc) init

def lastValue (entries : List (Val × Key × Arg)) (k : Key) : Option Arg := lastValueFrom none entries k

theorem dictLookup_insert (tbl : List (Val × Key × Arg)) (e : Val × Key × Arg) (k : Key) :
    dictLookup (dictInsert tbl e) k = if e.2.1 == k then some e.2.2 else dictLookup tbl k := by
  induction tbl with
  | nil => simp [dictInsert, dictLookup]
  | cons x r ih =>
    -- `LawfulBEq Key` turns each `==` into `=`
    by_cases hxe : x.2.1 = e.2.1
    · -- `e` replaces `x`: both sides test `k` against that one key, then look in `r`
      have hins : dictInsert (x :: r) e = e :: r := by simp [dictInsert, hxe]
      rw [hins, dictLookup, dictLookup, ← hxe]
      by_cases hxk : (x.2.1 == k) = true
      · rw [if_pos hxk, if_pos hxk]
      · rw [if_neg hxk, if_neg hxk, if_neg hxk]
    · -- `x` stays in front; the two sides test the keys of `x` and `e` in opposite orders, and at most one of them is `k`
      have hins : dictInsert (x :: r) e = x :: dictInsert r e := by simp [dictInsert, hxe]
      rw [hins, dictLookup, dictLookup, ih]
      by_cases hxk : x.2.1 = k
      · have hek : e.2.1 ≠ k := fun h => hxe (hxk.trans h.symm)
        simp [hxk, hek]
      · simp [hxk]

theorem dictLookup_foldl (entries : List (Val × Key × Arg)) (k : Key) (acc) :
    dictLookup (entries.foldl dictInsert acc) k = lastValueFrom (dictLookup acc k) entries k := by
  induction entries generalizing acc with
  | nil => rfl
  | cons e es ih =>
    simp only [List.foldl_cons, lastValueFrom]
    rw [ih, dictLookup_insert]
    rfl

/-- **lookup spec**: a key finds an entry iff it equals a stored key, and finds the value of the
*latest* such entry -/
theorem dictLookup_build (entries : List (Val × Key × Arg)) (k : Key) :
    dictLookup (dictBuild entries) k = lastValue entries k := by
  unfold dictBuild lastValue
  rw [dictLookup_foldl]; rfl

/-- a key that equals no stored key finds nothing (the NotFound exception of the caller) -/
theorem dictLookup_none (entries : List (Val × Key × Arg)) (k : Key)
    (h : ∀ e ∈ entries, (e.2.1 == k) = false) : dictLookup (dictBuild entries) k = none := by
  rw [dictLookup_build]
  unfold lastValue lastValueFrom
  induction entries with
  | nil => rfl
  | cons e es ih =>
    simp only [List.foldl_cons, h e List.mem_cons_self, Bool.false_eq_true, if_false]
    exact ih (fun e' he' => h e' (List.mem_cons_of_mem _ he'))

/-- a key equal to the last stored key finds that entry's value -/
theorem dictLookup_last (entries : List (Val × Key × Arg)) (e : Val × Key × Arg) :
    dictLookup (dictBuild (entries ++ [e])) e.2.1 = some e.2.2 := by
  rw [dictLookup_build]
  simp [lastValue, lastValueFrom, List.foldl_append]

/-- **merge**: lookup in the dictionary built from concatenated entry lists (what `ㄷ` builds for dictionaries, by the
definition of `bAdd`): entries of later dictionaries replace equal keys of earlier ones -/
theorem merge_lookup (t1 t2 : List (Val × Key × Arg)) (k : Key) :
    dictLookup (dictBuild (t1 ++ t2)) k = lastValueFrom (lastValue t1 k) t2 k := by
  rw [dictLookup_build]
  simp [lastValue, lastValueFrom, List.foldl_append]

-- the witnesses named in `int_keys`: −1 and −2
example : ((Num.int (-1)).key == (Num.int (-2)).key) = false := by decide +kernel

end UH.C06
