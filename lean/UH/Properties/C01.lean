/-
C01 — a program means exactly its consonant skeleton, in every Unicode spelling.

`Generated.implRuns` / `Generated.tsRuns` are regenerated from /repo's current
source on every run; the first two theorems are therefore re-checked by the
kernel against the current source.
-/
import UH.Model.Norm
import UH.Proofs.SpecRuns
import UH.Proofs.Tokenize
import UH.Proofs.Erase
namespace UH.C01
open UH UH.Spec

/-- [tie A] the Python normaliser's table is the specification's table -/
theorem implRuns_eq_spec : Generated.implRuns = specRuns := by decide +kernel

/-- [tie A] the TypeScript normaliser's table is the specification's table -/
theorem tsRuns_eq_spec : Generated.tsRuns = specRuns := by decide +kernel

/-- **every code point normalises as the specification says** -/
theorem norm_eq_spec (c : Nat) : normChar c = specNorm c := by
  unfold normChar; rw [implRuns_eq_spec]; exact specRuns_correct c

theorem ts_eq_spec (u : Nat) : normCharTs u = specNorm u := by
  unfold normCharTs; rw [tsRuns_eq_spec]; exact specRuns_correct u

/-- the two implementations agree on every code unit -/
theorem ts_eq_py (u : Nat) : normCharTs u = normChar u := by rw [ts_eq_spec, norm_eq_spec]

/-- **every non-Hangul character is a word separator** -/
theorem nonHangul_sep (c : Nat) (h1 : isSyllable c = false) (h2 : letterOf c = none)
    (h3 : inRanges hangulRanges c = false) : normChar c = [Sym.sp] := by
  rw [norm_eq_spec]; simp [specNorm, h1, letterSyms, h2, h3]

/-- **Hangul vowels, tone marks, finals and fillers are ignored** -/
theorem hangul_nonconsonant_deleted (c : Nat) (h1 : isSyllable c = false) (h2 : letterOf c = none)
    (h3 : inRanges hangulRanges c = true) : normChar c = [] := by
  rw [norm_eq_spec]; simp [specNorm, h1, letterSyms, h2, h3]

/-- **a consonant letter contributes exactly the plain consonants of its named components** -/
theorem letter_plain (c : Nat) (js : List Jamo) (h : letterOf c = some js) :
    normChar c = js.flatMap plain := by
  rw [norm_eq_spec]; simp [specNorm, letter_not_syllable c js h, letterSyms, h]

/-- **the same letter contributes the same consonants in whichever block it is written** -/
theorem block_independent (c d : Nat) (js : List Jamo) (hc : letterOf c = some js)
    (hd : letterOf d = some js) : normChar c = normChar d := by
  rw [letter_plain c js hc, letter_plain d js hd]

/-- **a syllable contributes exactly what its initial consonant contributes** -/
theorem syllable_initial (c : Nat) (h : isSyllable c = true) :
    normChar c = normChar (syllableInitial c) := by
  have hk : (c - 0xAC00) / 588 < 19 := by
    simp [isSyllable] at h; omega
  have hall : ∀ k, k < 19 → (letterOf (0x1100 + k)).isSome = true := by decide +kernel
  obtain ⟨js, hjs⟩ := Option.isSome_iff_exists.mp (hall _ hk)
  rw [letter_plain (syllableInitial c) js hjs, norm_eq_spec]
  simp [specNorm, h, letterSyms, syllableInitial, hjs]

/-- **every ㅇ and ㅎ starts a new word**: in every character's normal form each ㅇ/ㅎ is
immediately preceded by a separator -/
theorem norm_shape (c : Nat) : shapeOk (normChar c) = true := by
  unfold normChar; rw [implRuns_eq_spec]
  have hall : specRuns.all (fun r => shapeOk r.syms) = true := by decide +kernel
  exact lookupRuns_all (shapeOk · = true) specRuns c (by decide) (List.all_eq_true.mp hall)

/-- every token is a well-formed word, so the parser never meets a foreign shape -/
theorem tokens_wellformed (text : List Nat) :
    ∀ t ∈ tokenize normChar text, (classify t.syms).isSome = true :=
  classify_tokens normChar norm_shape text

/-- a separator splits the token stream; tokens never span a separator -/
theorem tokenizeGo_sep (cur : Option Token) (xs ys : List (Sym × Span)) (p : Span) :
    tokenizeGo cur (xs ++ (Sym.sp, p) :: ys) = tokenizeGo cur xs ++ tokenizeGo none ys := by
  induction xs generalizing cur with
  | nil => cases cur <;> simp [tokenizeGo, Sym.isSp]
  | cons x xs ih =>
    obtain ⟨s, q⟩ := x
    -- on `s` the loop takes the same step on both sides, separator or not
    cases cur <;> simp only [List.cons_append, tokenizeGo] <;> split <;> simp [ih]

/-- between words, a second separator directly after one changes nothing -/
theorem tokenizeGo_sep_sep (xs : List (Sym × Span)) (p q : Span) :
    tokenizeGo none ((Sym.sp, p) :: (Sym.sp, q) :: xs) = tokenizeGo none ((Sym.sp, q) :: xs) := by
  simp [tokenizeGo, Sym.isSp]

/-- **any two texts with the same skeleton parse identically** (same trees up to source
positions, or the same kind of syntax error) -/
theorem same_skeleton_same_parse (t1 t2 : List Nat)
    (h : (tokenize normChar t1).map (·.syms) = (tokenize normChar t2).map (·.syms)) :
    resErase (parse normChar t1) = resErase (parse normChar t2) := by
  unfold parse; rw [parseTokens_erase, parseTokens_erase, h]

-- non-vacuity: 동 (U+B3D9) ↦ ㄷ like ᄃ (U+1103), ㄷ (U+3137), ﾨ (U+FFA7)… ; ㅿ (U+317F) ↦ ㅅ like ᅀ (U+1140)
example : normChar 0xB3D9 = [.d 2] ∧ normChar 0x1103 = [.d 2] ∧ normChar 0x3137 = [.d 2] := by
  decide +kernel
example : normChar 0x317F = [.d 6] ∧ normChar 0x1140 = [.d 6] := by decide +kernel
example : letterOf 0x317F = letterOf 0x1140 := by decide +kernel
example : normChar 0xD558 = [.sp, .h] ∧ normChar 0x41 = [.sp] ∧ normChar 0x1161 = [] := by decide +kernel

end UH.C01
