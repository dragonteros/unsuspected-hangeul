/-
C17 — bitwise operations are infinite two's complement; the five roundings are exact.
-/
import UH.Model.Interp
namespace UH.C17
open UH

/-- bit `i` of the infinite two's-complement string of `x`: for `x ≥ 0` the binary digit, for
`x < 0` the complement of the digit of `−x−1` (sign fill: all high bits are 1) -/
def tb (x : Int) (i : Nat) : Bool :=
  if 0 ≤ x then x.toNat.testBit i else !((-x - 1).toNat.testBit i)

theorem tb_ofNat (n : Nat) (i : Nat) : tb (n : Int) i = n.testBit i := by simp [tb]

theorem tb_bitNot (x : Int) (i : Nat) : tb (bitNot x) i = !tb x i := by
  unfold tb bitNot
  by_cases h : 0 ≤ x
  · have h' : ¬ (0 ≤ -x - 1) := by omega
    have e : (-(-x - 1) - 1) = x := by omega
    simp only [h, h', if_true, if_false, e]
  · have h' : (0 ≤ -x - 1) := by omega
    simp only [h, h', if_true, if_false, Bool.not_not]

theorem natAndNot_testBit (a m i : Nat) : (natAndNot a m).testBit i = (a.testBit i && !m.testBit i) := by
  simp only [natAndNot, Nat.testBit_xor, Nat.testBit_and]
  cases a.testBit i <;> cases m.testBit i <;> rfl

/-! the two readings of `tb`, turned round: the digits of the natural numbers that `bitAnd`, `bitOr`, `bitXor`
compute with are the bits of `x` (`x ≥ 0`) or their complements (`x < 0`, the number being `~x`) -/
theorem testBit_toNat {x : Int} (h : 0 ≤ x) (i : Nat) : x.toNat.testBit i = tb x i := by simp [tb, h]
theorem testBit_bitNot_toNat {x : Int} (h : ¬ 0 ≤ x) (i : Nat) : (bitNot x).toNat.testBit i = !tb x i := by
  simp [tb, h, bitNot]

/-- **and / or / xor act bit by bit on the infinite strings**: in each of the four sign cases every digit is
rewritten to a bit of `x` or `y`, which leaves an identity of Booleans -/
theorem tb_bitAnd (x y : Int) (i : Nat) : tb (bitAnd x y) i = (tb x i && tb y i) := by
  unfold bitAnd
  split <;> split <;>
    simp only [tb_bitNot, tb_ofNat, Nat.testBit_and, Nat.testBit_or, natAndNot_testBit, testBit_toNat,
      testBit_bitNot_toNat, not_false_eq_true, *] <;>
    cases tb x i <;> cases tb y i <;> rfl

theorem tb_bitOr (x y : Int) (i : Nat) : tb (bitOr x y) i = (tb x i || tb y i) := by
  unfold bitOr
  split <;> split <;>
    simp only [tb_bitNot, tb_ofNat, Nat.testBit_and, Nat.testBit_or, natAndNot_testBit, testBit_toNat,
      testBit_bitNot_toNat, not_false_eq_true, *] <;>
    cases tb x i <;> cases tb y i <;> rfl

theorem tb_bitXor (x y : Int) (i : Nat) : tb (bitXor x y) i = (tb x i ^^ tb y i) := by
  unfold bitXor
  split <;> split <;>
    simp only [tb_bitNot, tb_ofNat, Nat.testBit_xor, testBit_toNat, testBit_bitNot_toNat, not_false_eq_true, *] <;>
    cases tb x i <;> cases tb y i <;> rfl

/-- **shift**: a non-negative count multiplies by 2ⁿ; a negative count shifts right with sign fill,
i.e. floors the division by 2^|n| -/
theorem shift_nonneg (x : Int) (n : Nat) : shiftLeft x n = x * 2 ^ n := by
  have h : ¬ ((n : Int) < 0) := by omega
  simp only [shiftLeft, h, if_false, Int.toNat_natCast]
  exact Int.shiftLeft_eq x n

theorem shift_neg (x : Int) (n : Nat) (hn : 0 < n) : shiftLeft x (-(n : Int)) = x / 2 ^ n := by
  have h : (-(n : Int)) < 0 := by omega
  simp only [shiftLeft, h, if_true, Int.neg_neg, Int.toNat_natCast]
  exact Int.shiftRight_eq_div_pow x n

/-- sign fill: shifting a negative integer right by at least its bit length gives −1 (never 0), a non-negative one 0 -/
theorem shift_neg_saturates (x : Int) (n : Nat) (hn : 0 < n) (hx : -(2 ^ n : Int) ≤ x) (hneg : x < 0) :
    shiftLeft x (-(n : Int)) = -1 := by
  rw [shift_neg x n hn]
  have hd : (0 : Int) < 2 ^ n := Int.pow_pos (by omega)
  have h := (Int.ediv_emod_unique (a := x) (b := (2 : Int) ^ n) (q := -1) (r := x + 2 ^ n) hd).mpr
  exact (h ⟨by omega, by omega, by omega⟩).1

theorem shift_nonneg_vanishes (x : Int) (n : Nat) (hn : 0 < n) (hx0 : 0 ≤ x) (hx : x < (2 ^ n : Int)) :
    shiftLeft x (-(n : Int)) = 0 := by
  rw [shift_neg x n hn]
  exact Int.ediv_eq_zero_of_lt hx0 hx

example : shiftLeft (-1) (-1) = -1 ∧ shiftLeft (-5) (-3) = -1 ∧ shiftLeft (-5) (-300) = -1 ∧ shiftLeft 5 (-300) = 0 := by
  decide +kernel
example : bitAnd (-1) 5 = 5 ∧ bitOr (-8) 3 = -5 ∧ bitXor (-1) (-1) = 0 ∧ shiftLeft (-5) (-1) = -3 := by decide +kernel

/-- the signed mantissa `m` of a finite binary64 value `m · 2^e` -/
def smant (x : F64) : Int := if F64.signBit x then -(F64.mant x : Int) else F64.mant x

/-- for a non-negative binary exponent the value is an integer, and floor, ceiling and to-nearest return it (toward /
away from zero are one of floor / ceiling: `trunc_away_spec`) -/
theorem roundings_integral (x : F64) (he : 0 ≤ F64.exp2 x) :
    F64.floorInt x = smant x * 2 ^ (F64.exp2 x).toNat ∧ F64.ceilInt x = smant x * 2 ^ (F64.exp2 x).toNat ∧
    F64.roundInt x = smant x * 2 ^ (F64.exp2 x).toNat := by
  simp [F64.floorInt, F64.ceilInt, F64.roundInt, smant, he]

/-- **floor**: for a negative exponent (`d = 2^(−e)`), `⌊x⌋·d ≤ m < (⌊x⌋+1)·d` -/
theorem floor_spec (x : F64) (he : F64.exp2 x < 0) :
    let d : Int := 2 ^ (-(F64.exp2 x)).toNat
    F64.floorInt x * d ≤ smant x ∧ smant x < (F64.floorInt x + 1) * d := by
  intro d
  have hd : 0 < d := Int.pow_pos (by omega)
  have hne : ¬ (0 ≤ F64.exp2 x) := by omega
  have hf : F64.floorInt x = smant x / d := by simp [F64.floorInt, smant, hne, d]
  rw [hf]
  exact ⟨Int.ediv_mul_le _ (by omega), Int.lt_ediv_add_one_mul_self _ hd⟩

/-- **ceiling**: `(⌈x⌉−1)·d < m ≤ ⌈x⌉·d` -/
theorem ceil_spec (x : F64) (he : F64.exp2 x < 0) :
    let d : Int := 2 ^ (-(F64.exp2 x)).toNat
    (F64.ceilInt x - 1) * d < smant x ∧ smant x ≤ F64.ceilInt x * d := by
  intro d
  have hd : 0 < d := Int.pow_pos (by omega)
  have hne : ¬ (0 ≤ F64.exp2 x) := by omega
  have hc : F64.ceilInt x = -((-smant x) / d) := by simp [F64.ceilInt, smant, hne, d]
  rw [hc]
  have h1 := Int.ediv_mul_le (-smant x) (b := d) (by omega)
  have h2 := Int.lt_ediv_add_one_mul_self (-smant x) hd
  -- multiplied out, both sides are linear in the product `(−m / d) * d`
  simp only [Int.sub_mul, Int.add_mul, Int.neg_mul, Int.one_mul] at h2 ⊢
  omega

/-- the integer satisfying the floor inequalities is unique -/
theorem floor_unique (m d z z' : Int) (hd : 0 < d) (h1 : z * d ≤ m) (h2 : m < (z + 1) * d)
    (h1' : z' * d ≤ m) (h2' : m < (z' + 1) * d) : z = z' := by
  rcases Int.lt_trichotomy z z' with h | h | h
  · have : (z + 1) * d ≤ z' * d := Int.mul_le_mul_of_nonneg_right (by omega) (by omega)
    omega
  · exact h
  · have : (z' + 1) * d ≤ z * d := Int.mul_le_mul_of_nonneg_right (by omega) (by omega)
    omega

/-- **toward zero / away from zero** pick floor or ceiling by the sign -/
theorem trunc_away_spec (x : F64) :
    F64.truncInt x = (if F64.signBit x then F64.ceilInt x else F64.floorInt x) ∧
    F64.awayInt x = (if F64.signBit x then F64.floorInt x else F64.ceilInt x) := ⟨rfl, rfl⟩

/-- **to nearest, ties to even**: the result is ⌊x⌋ or ⌊x⌋+1, the remainder `r = m − ⌊x⌋·d`
decides (`2r < d` down, `2r > d` up), and on a tie the even one is chosen -/
theorem round_spec (x : F64) (he : F64.exp2 x < 0) :
    let d : Int := 2 ^ (-(F64.exp2 x)).toNat
    let f := F64.floorInt x
    let r := smant x - f * d
    (2 * r < d → F64.roundInt x = f) ∧ (2 * r > d → F64.roundInt x = f + 1) ∧
    (2 * r = d → (F64.roundInt x = f ∨ F64.roundInt x = f + 1) ∧ F64.roundInt x % 2 = 0) := by
  intro d f r
  have hne : ¬ (0 ≤ F64.exp2 x) := by omega
  have hr : F64.roundInt x =
      (if 2 * r < d then f else if 2 * r > d then f + 1 else (if f % 2 = 0 then f else f + 1)) := by
    simp [F64.roundInt, smant, hne, d, f, r]
  refine ⟨fun h => by rw [hr]; simp [h], fun h => ?_, fun h => ?_⟩
  · have h' : ¬ (2 * r < d) := by omega
    rw [hr]; simp [h, h']
  · have h1 : ¬ (2 * r < d) := by omega
    have h2 : ¬ (2 * r > d) := by omega
    rw [hr]; simp only [h1, h2, if_false]
    split <;> omega

example : F64.roundInt (F64.ofFloat 2.5) = 2 ∧ F64.roundInt (F64.ofFloat 3.5) = 4 ∧
    F64.roundInt (F64.ofFloat (-2.5)) = -2 := by decide +kernel

end UH.C17
