/-
C12 — sequence / string built-ins match the documented operations for every index.
-/
import UH.Model.Interp
import UH.Proofs.Comp
import UH.Proofs.PyIndex
namespace UH.C12
open UH Comp

/-- **an index is accepted iff −len ≤ i < len** -/
theorem pyIndex_isSome_iff {α} (l : List α) (i : Int) :
    (pyIndex l i).isSome = true ↔ -(l.length : Int) ≤ i ∧ i < l.length :=
  UH.pyIndex_isSome_iff l i

/-- a non-negative index selects that position; a negative one counts from the end -/
theorem pyIndex_nonneg {α} (l : List α) (i : Nat) : pyIndex l (i : Int) = l[i]? := by
  rw [pyIndex_of_nonneg l _ (by omega), Int.toNat_natCast]

theorem pyIndex_neg {α} (l : List α) (k : Nat) (hk : 0 < k) (hle : k ≤ l.length) :
    pyIndex l (-(k : Int)) = l[l.length - k]? := by
  rw [pyIndex_of_neg l _ (by omega) (by omega)]; congr 1; omega

/-- the clamped start / stop of `PySlice_AdjustIndices` -/
def adjust (len : Nat) (i lo hi : Int) : Int :=
  let i := if i < 0 then i + len else i
  if i < lo then lo else if i > hi then hi else i

theorem adjust_bounds (len : Nat) (i lo hi : Int) (h : lo ≤ hi) :
    lo ≤ adjust len i lo hi ∧ adjust len i lo hi ≤ hi := by
  -- a clamp to `[lo, hi]`, whatever the index counted from the end (`j`) is
  unfold adjust
  generalize (if i < 0 then i + len else i) = j
  dsimp only
  split
  · omega            -- `j < lo`: the result is `lo`
  · split <;> omega  -- else `hi` if `j > hi`, and `j` itself if not

/-- the count `sliceIndices` takes: walking a gap `g > 0` in strides of `d > 0`, exactly `(g − 1) / d + 1`
strides start inside the gap -/
theorem strides (g d : Int) (hg : 0 < g) (hd : 0 < d) :
    (∀ k : Nat, k < ((g - 1) / d + 1).toNat → 0 ≤ (k : Int) * d ∧ (k : Int) * d < g) ∧
      g ≤ (((g - 1) / d + 1).toNat : Int) * d := by
  have hq : 0 ≤ (g - 1) / d := Int.ediv_nonneg (by omega) (by omega)
  have h1 : (g - 1) / d * d ≤ g - 1 := Int.ediv_mul_le _ (by omega)
  have h2 : g - 1 < ((g - 1) / d + 1) * d := Int.lt_ediv_add_one_mul_self _ hd
  refine ⟨fun k hk => ?_, ?_⟩
  · have h3 : (k : Int) * d ≤ (g - 1) / d * d := Int.mul_le_mul_of_nonneg_right (by omega) (by omega)
    have h4 : 0 ≤ (k : Int) * d := Int.mul_nonneg (by omega) (by omega)
    omega
  · rw [Int.toNat_of_nonneg (by omega)]; omega

/-- positive step: the selected positions are `s, s+step, …`, all `< e`, none skipped, and the
next one would reach `e` — with `s`, `e` the start / stop counted from the end when negative and
clamped to `[0, len]` -/
theorem slice_pos (len : Nat) (start stop step : Int) (hs : 0 < step) :
    let s := adjust len start 0 len
    let e := adjust len stop 0 len
    ∃ cnt : Nat, sliceIndices len start stop step = (List.range cnt).map (fun (k : Nat) => (s + (k : Int) * step).toNat) ∧
      (∀ k : Nat, k < cnt → 0 ≤ s + (k : Int) * step ∧ s + (k : Int) * step < e ∧ s + (k : Int) * step < len) ∧
      (e ≤ s + (cnt : Int) * step) := by
  intro s e
  have hs0 := (adjust_bounds len start 0 len (by omega)).1
  have he := (adjust_bounds len stop 0 len (by omega)).2
  have heq : sliceIndices len start stop step = if s ≥ e then [] else
      (List.range ((e - s - 1) / step + 1).toNat).map (fun (k : Nat) => (s + (k : Int) * step).toNat) := by
    simp only [sliceIndices, hs, if_true]; rfl
  by_cases hse : s ≥ e
  · exact ⟨0, by rw [heq, if_pos hse]; rfl, by intro k hk; omega, by simpa using hse⟩
  · obtain ⟨hinside, hreach⟩ := strides (e - s) step (by omega) hs
    refine ⟨_, by rw [heq, if_neg hse], fun k hk => ?_, by omega⟩
    have := hinside k hk
    omega

/-- negative step: the selected positions are `s, s+step, …` (descending), all `> e`, all inside the sequence,
none skipped, and the next one would reach `e` — with `s`, `e` counted from the end when negative and
clamped to `[−1, len−1]` -/
theorem slice_neg (len : Nat) (start stop step : Int) (hs : step < 0) :
    let s := adjust len start (-1) (len - 1)
    let e := adjust len stop (-1) (len - 1)
    ∃ cnt : Nat, sliceIndices len start stop step = (List.range cnt).map (fun (k : Nat) => (s + (k : Int) * step).toNat) ∧
      (∀ k : Nat, k < cnt → e < s + (k : Int) * step ∧ 0 ≤ s + (k : Int) * step ∧ s + (k : Int) * step < len) ∧
      (s + (cnt : Int) * step ≤ e) := by
  intro s e
  have hsn : ¬ (step > 0) := by omega
  have hs1 := (adjust_bounds len start (-1) (len - 1) (by omega)).2
  have he := (adjust_bounds len stop (-1) (len - 1) (by omega)).1
  have heq : sliceIndices len start stop step = if s ≤ e then [] else
      (List.range ((s - e - 1) / (-step) + 1).toNat).map (fun (k : Nat) => (s + (k : Int) * step).toNat) := by
    simp only [sliceIndices, hsn, if_false]; rfl
  by_cases hse : s ≤ e
  · exact ⟨0, by rw [heq, if_pos hse]; rfl, by intro k hk; omega, by simpa using hse⟩
  · obtain ⟨hinside, hreach⟩ := strides (s - e) (-step) (by omega) (by omega)
    simp only [Int.mul_neg] at hinside hreach
    refine ⟨_, by rw [heq, if_neg hse], fun k hk => ?_, by omega⟩
    have := hinside k hk
    omega

/-- every position a slice selects — whatever start, stop and non-zero step — lies inside the sequence, so
`pySlice` never drops a selected position -/
theorem slice_in_range (len : Nat) (start stop step : Int) (hne : step ≠ 0) :
    ∀ i ∈ sliceIndices len start stop step, i < len := by
  intro i hi
  by_cases hs : 0 < step
  · obtain ⟨cnt, heq, hall, _⟩ := slice_pos len start stop step hs
    rw [heq, List.mem_map] at hi
    obtain ⟨k, hk, rfl⟩ := hi
    have := hall k (List.mem_range.mp hk)
    omega
  · obtain ⟨cnt, heq, hall, _⟩ := slice_neg len start stop step (by omega)
    rw [heq, List.mem_map] at hi
    obtain ⟨k, hk, rfl⟩ := hi
    have := hall k (List.mem_range.mp hk)
    omega

theorem slice_step_one {α} (l : List α) (start stop : Int) :
    ∀ i ∈ sliceIndices l.length start stop 1, i < l.length :=
  slice_in_range l.length start stop 1 (by omega)

/-- the slice has exactly as many elements as positions were selected -/
theorem slice_length {α} (l : List α) (start stop step : Int) (hne : step ≠ 0) :
    (pySlice l start stop step).length = (sliceIndices l.length start stop step).length := by
  unfold pySlice
  have h := slice_in_range l.length start stop step hne
  generalize sliceIndices l.length start stop step = idx at h
  induction idx with
  | nil => rfl
  | cons i is ih =>
    have hi : i < l.length := h i (by simp)
    simp [List.getElem?_eq_getElem hi, ih (fun j hj => h j (by simp [hj]))]

/-- closed instances with negative steps; the first: `[::-1]` selects `len−1, …, 0` -/
example : sliceIndices 4 (-1) (-5) (-1) = [3, 2, 1, 0] ∧ sliceIndices 5 (-1) (-6) (-2) = [4, 2, 0] ∧
    sliceIndices 3 (-7) 9 2 = [0, 2] ∧ sliceIndices 3 1 (-9) (-1) = [1, 0] := by decide +kernel

/-- a zero step is rejected before slicing (value exception) -/
theorem slice_zero_step (sp : Span) (xs : List Arg) (a b : Int) :
    bSlice sp [.strict (.list xs), .strict (.int a), .strict (.int b), .strict (.int 0)] =
      Comp.throw (valueErr sp) := rfl

/-- the loop of `ㅁㄷ` (`mapM'`) runs the function on the elements in order and keeps the results in that order -/
theorem mapM'_order {α β} (f : α → Comp β) (x : α) (xs : List α) :
    mapM' f (x :: xs) = (do let b ← f x; let bs ← mapM' f xs; pure (b :: bs)) := rfl

theorem mapM'_pure {α β} (g : α → β) (xs : List α) :
    mapM' (fun x => (ret (g x) : Comp β)) xs = ret (xs.map g) := by
  induction xs with
  | nil => rfl
  | cons x xs ih => simp [mapM', ih]

/-- **folds associate as documented**: the accumulator is threaded through the feed from its first
element; a left fold calls `f(acc, item)`, a right fold (feed = reversed list) calls `f(item, acc)` -/
theorem foldGo_eq (f : Val) (sp : Span) (fromRight : Bool) (acc : Arg) (xs : List Arg) :
    foldGo f sp fromRight acc xs =
      xs.foldlM (fun acc item => applyFn f sp (if fromRight then [item, acc] else [acc, item])) acc := by
  induction xs generalizing acc with
  | nil => rfl
  | cons x xs ih =>
    simp only [foldGo, List.foldlM_cons]
    congr 1
    funext a
    exact ih a

theorem isPrefix_split {α} [BEq α] [LawfulBEq α] (d l : List α) (h : isPrefix d l = true) :
    l = d ++ l.drop d.length := by
  induction d generalizing l with
  | nil => simp
  | cons p ps ih =>
    cases l with
    | nil => simp [isPrefix] at h
    | cons x xs =>
      simp only [isPrefix, Bool.and_eq_true, beq_iff_eq] at h
      obtain ⟨rfl, h2⟩ := h
      simp only [List.length_cons, List.drop_succ_cons, List.cons_append, List.cons.injEq, true_and]
      exact ih xs h2

theorem splitOn_go_ne_nil {α} [BEq α] (d : List α) (fuel : Nat) (cur rest : List α) :
    splitOn.go d fuel cur rest ≠ [] := by
  induction fuel generalizing cur rest with
  | zero => simp [splitOn.go]
  | succ n ih =>
    cases rest with
    | nil => simp [splitOn.go]
    | cons x xs =>
      simp only [splitOn.go]
      split
      · simp
      · exact ih _ _

theorem joinWith_cons {α} (d a : List α) (t : List (List α)) (ht : t ≠ []) :
    joinWith d (a :: t) = a ++ d ++ joinWith d t := by
  cases t with
  | nil => exact absurd rfl ht
  | cons b bs => rfl

theorem joinWith_splitOn_go {α} [BEq α] [LawfulBEq α] (d : List α) (hd : d ≠ []) (fuel : Nat) (cur rest : List α)
    (h : rest.length < fuel) : joinWith d (splitOn.go d fuel cur rest) = cur.reverse ++ rest := by
  induction fuel generalizing cur rest with
  | zero => omega
  | succ n ih =>
    cases rest with
    | nil => simp [splitOn.go, joinWith]
    | cons x xs =>
      simp only [splitOn.go]
      by_cases hp : isPrefix d (x :: xs) = true
      · simp only [hp, if_true]
        have hsplit := isPrefix_split d (x :: xs) hp
        have hdl : 0 < d.length := List.length_pos_iff.mpr hd
        have hlen : ((x :: xs).drop d.length).length < n := by
          simp only [List.length_drop, List.length_cons] at *; omega
        rw [joinWith_cons _ _ _ (splitOn_go_ne_nil d n [] _), ih [] _ hlen]
        simp only [List.reverse_nil, List.nil_append, List.append_assoc]
        rw [← hsplit]
      · have hp' : isPrefix d (x :: xs) = false := by simpa using hp
        simp only [hp', Bool.false_eq_true, if_false]
        have hlen : xs.length < n := by simp only [List.length_cons] at h; omega
        rw [ih (x :: cur) xs hlen]
        simp

/-- **joining the pieces of a split with the same non-empty separator restores the original** -/
theorem join_split {α} [BEq α] [LawfulBEq α] (d s : List α) (hd : d ≠ []) :
    joinWith d (splitOn d s) = s := by
  unfold splitOn
  rw [joinWith_splitOn_go d hd (s.length + 1) [] s (by omega)]
  simp

/-- strings are sequences of Unicode code points: the length of a string value is its number of
characters -/
theorem len_string (s : String) : seqLen (.str s) = s.length := rfl

theorem concat_lists (sp : Span) (xs ys : List Arg) :
    bAdd sp [.strict (.list xs), .strict (.list ys)] = ret (.strict (.list (xs ++ ys))) := by
  -- by definition the result is the `flatMap` of the evaluated lists, `xs ++ (ys ++ [])`
  show ret (Arg.strict (.list (xs ++ (ys ++ [])))) = _
  rw [List.append_nil]

end UH.C12
