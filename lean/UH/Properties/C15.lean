/-
C15 — import resolves by skeleton, evaluates once in an empty scope, context-free.
-/
import UH.Model.Machine
namespace UH.C15
open UH World

/-- **a name matches a literal iff its skeleton is a single digit word of that value**: if the
name's symbols, separators stripped at both ends, are the digits `ds` (non-empty), it matches
exactly the literal `parseNumber ds` -/
theorem matches_iff (name : String) (ds : List Digit) (hne : ds ≠ []) (lit : Int)
    (h : symDigits (((name.toList.flatMap (fun c => normChar c.toNat)).dropWhile Sym.isSp).reverse.dropWhile Sym.isSp).reverse
      = some ds) :
    matchesLiteral name lit = true ↔ parseNumber ds = lit := by
  have : ds.isEmpty = false := List.isEmpty_eq_false_iff.mpr hne
  simp [matchesLiteral, h, this]

/-- a name whose skeleton is not one digit word (no consonant, two words, an ㅇ/ㅎ word) matches nothing -/
theorem no_match (name : String) (lit : Int)
    (h : symDigits (((name.toList.flatMap (fun c => normChar c.toNat)).dropWhile Sym.isSp).reverse.dropWhile Sym.isSp).reverse
      = none) : matchesLiteral name lit = false := by
  simp [matchesLiteral, h]

/-- **a module is evaluated once**: the loader registers the file under its path, and a path that is registered
returns the registered delayed expression — store and world unchanged, the file is not read again.  (That the search
has no environment and no store among its arguments is the type of `searchFile`.) -/
theorem import_once (st : Store) (w : World) (sp : Span) (path : String) (t : TId)
    (h : w.registry.lookup path = some t) :
    doWorld.loadPath st w sp path = (st, w, .ok (.thunk t none)) := by
  simp [doWorld.loadPath, h]

def litOf (e : AST) : Option Int := match e with | .lit n _ => some n | _ => none

/-- **a loaded module is delayed in the empty scope** (no enclosing functions, no arguments) and
registered -/
theorem import_empty_scope (st : Store) (w : World) (sp : Span) (path : String) (bytes : List UInt8)
    (cps : List Nat) (e : AST)
    (hreg : w.registry.lookup path = none) (hfile : World.getFile w path = some bytes)
    (hdec : utf8Decode bytes = some cps) (hparse : parse normChar cps = .ok [e]) :
    doWorld.loadPath st w sp path =
      ({ st with cells := st.cells.push { expr := e, env := ⟨[], []⟩ } },
       { w with registry := w.registry ++ [(path, st.cells.size)] },
       .ok (.thunk st.cells.size (litOf e))) := by
  simp only [doWorld.loadPath, hreg, hfile, hdec, hparse]
  rfl

/-- **empty and multi-expression modules are language exceptions** (value class) -/
theorem import_bad_module (st : Store) (w : World) (sp : Span) (path : String) (bytes : List UInt8)
    (cps : List Nat) (hreg : w.registry.lookup path = none) (hfile : World.getFile w path = some bytes)
    (hdec : utf8Decode bytes = some cps) :
    (parse normChar cps = .ok [] → doWorld.loadPath st w sp path = (st, w, .err (valueErr sp))) ∧
    (∀ e1 e2 es, parse normChar cps = .ok (e1 :: e2 :: es) →
      doWorld.loadPath st w sp path = (st, w, .err (valueErr e1.span))) := by
  constructor
  · intro hp; simp [doWorld.loadPath, hreg, hfile, hdec, hp]
  · intro e1 e2 es hp; simp [doWorld.loadPath, hreg, hfile, hdec, hp]

/-- a path that is not a file is an OS exception and nothing else changes (in the model EISDIR for a directory,
ENOTDIR below a file, else ENOENT; the statement leaves the number open) -/
theorem import_missing (st : Store) (w : World) (sp : Span) (path : String)
    (hreg : w.registry.lookup path = none) (hfile : World.getFile w path = none) :
    ∃ errno, doWorld.loadPath st w sp path = (st, w, .err (osErr sp errno)) := by
  simp only [doWorld.loadPath, hreg, hfile]
  exact ⟨_, rfl⟩

/-- ambiguity and absence are reported as import / not-found exceptions -/
theorem import_search_outcomes (st : Store) (w : World) (sp : Span) (lits : List Int) (h5 : lits.head? ≠ some 5) :
    (searchFile w (lits.length + 1) lits "" = .notFound →
      doWorld st w (.importLit sp lits) = (st, w, .err (builtinErr .notFound sp))) ∧
    (searchFile w (lits.length + 1) lits "" = .ambiguous →
      doWorld st w (.importLit sp lits) = (st, w, .err (builtinErr .import_ sp))) := by
  have h5' : (lits.head? == some 5) = false := beq_eq_false_iff_ne.mpr h5
  constructor <;> intro hs <;> simp [doWorld, h5', hs]

end UH.C15
