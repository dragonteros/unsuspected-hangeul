/-
The call-by-name reference semantics (`ByName.BN`, UH/Proofs/ByName.lean) as an executable function with fuel:
trees only — no store, no memo cells, no frames.  `UH/Proofs/ByName.lean` proves that whatever it returns is a
value of `BN`; by adequacy that is what the evaluator computes.  The driver exposes it (`bn`), so the
correspondence also compares the implementation with the *reference semantics itself* on the programs of the fragment.
-/
import UH.Model.Interp
namespace UH.ByName

inductive TEnv where
  | mk (funs : List (AST × TEnv)) (args : List (List (AST × TEnv)))

def TEnv.funs : TEnv → List (AST × TEnv) | .mk f _ => f
def TEnv.args : TEnv → List (List (AST × TEnv)) | .mk _ a => a
instance : Inhabited TEnv := ⟨.mk [] []⟩

inductive TVal where
  | int (n : Int)
  | bool (b : Bool)
  | clo (body : AST) (env : TEnv)
  /-- a list: its element expressions, each still delayed in its environment -/
  | list (elems : List (AST × TEnv))

def isLit : AST → Option Int | .lit n _ => some n | _ => none

def bnEval : Nat → TEnv → AST → Option TVal
  | 0, _, _ => none
  | fuel + 1, ρ, e =>
    match e with
    | .lit n _ => some (.int n)
    | .funDef b _ => some (.clo b ρ)
    | .funRef rel _ =>
      match pyIndex ρ.funs (-rel - 1) with
      | some (b, ρ') => some (.clo b ρ')
      | none => none
    | .argRef a relF _ =>
      match pyIndex ρ.args (-relF - 1) with
      | none => none
      | some frame =>
        match bnEval fuel ρ a with
        | some (.int i) =>
          if 0 ≤ i ∧ i < frame.length then
            match frame[i.toNat]? with
            | some (e', ρ') => bnEval fuel ρ' e'
            | none => none
          else none
        | _ => none
    | .call f args _ =>
      match isLit f with
      | some n =>
        if encodeNumber n = [7, 7] then (match args with | [] => some (.bool true) | _ => none)
        else if encodeNumber n = [0, 7] then (match args with | [] => some (.bool false) | _ => none)
        else if encodeNumber n = [1] then
          (match args with
           | [a1, a2] => (match bnEval fuel ρ a1, bnEval fuel ρ a2 with
              | some (.int x), some (.int y) => some (.bool (x == y))
              | _, _ => none)
           | _ => none)
        else if encodeNumber n = [2] then
          (match args with
           | [a1, a2] => (match bnEval fuel ρ a1, bnEval fuel ρ a2 with
              | some (.int x), some (.int y) => some (.int (x + y))
              | _, _ => none)
           | _ => none)
        else if encodeNumber n = [0] then
          (match args with
           | [a1, a2] => (match bnEval fuel ρ a1, bnEval fuel ρ a2 with
              | some (.int x), some (.int y) => some (.int (x * y))
              | _, _ => none)
           | _ => none)
        else if encodeNumber n = [7] then
          (match args with
           | [a1, a2] => (match bnEval fuel ρ a1, bnEval fuel ρ a2 with
              | some (.int x), some (.int y) => some (.bool (decide (x < y)))
              | _, _ => none)
           | _ => none)
        else if encodeNumber n = [1, 4] then
          (match args with
           | [a1, a2] => (match bnEval fuel ρ a1, bnEval fuel ρ a2 with
              | some (.int x), some (.int y) => if y = 0 then none else some (.int (Int.tmod x y))
              | _, _ => none)
           | _ => none)
        else if encodeNumber n = [4, 3] then some (.list (args.map (fun a => (a, ρ))))
        else if encodeNumber n = [7, 2] then
          (match args with
           | [a] => (match bnEval fuel ρ a with
              | some (.list elems) => some (.int elems.length)
              | _ => none)
           | _ => none)
        else none
      | none =>
        match bnEval fuel ρ f with
        | some (.clo b ρd) => bnEval fuel (.mk (ρd.funs ++ [(b, ρd)]) (ρd.args ++ [args.map (fun a => (a, ρ))])) b
        | some (.bool bb) => (match args with | [x, y] => bnEval fuel ρ (if bb then x else y) | _ => none)
        | some (.list elems) =>
          (match args with
           | [a] =>
             (match bnEval fuel ρ a with
              | some (.int i) =>
                (match pyIndex elems i with
                 | some (e', ρ') => bnEval fuel ρ' e'
                 | none => none)
              | _ => none)
           | _ => none)
        | _ => none
    | .bomb => none

end UH.ByName
