/-
"From some fuel on": how the two evaluators with fuel (`bnEval`, `evalF`) are shown complete.  A derivation gives a
fact that holds of every large enough fuel; two such facts hold together from the larger bound on (`and`), and one more
layer of the evaluator costs one more unit (`succ`).
-/
namespace UH

def Eventually (P : Nat → Prop) : Prop := ∃ k0, ∀ k, k0 ≤ k → P k

theorem Eventually.and {P Q : Nat → Prop} (hp : Eventually P) (hq : Eventually Q) : Eventually fun k => P k ∧ Q k := by
  obtain ⟨a, ha⟩ := hp
  obtain ⟨b, hb⟩ := hq
  exact ⟨max a b, fun k hk => ⟨ha k (by omega), hb k (by omega)⟩⟩

theorem Eventually.succ {P Q : Nat → Prop} (hp : Eventually P) (step : ∀ j, P j → Q (j + 1)) : Eventually Q := by
  obtain ⟨a, ha⟩ := hp
  refine ⟨a + 1, fun k hk => ?_⟩
  obtain ⟨j, rfl⟩ : ∃ j, k = j + 1 := ⟨k - 1, by omega⟩
  exact step j (ha j (by omega))

theorem Eventually.of_succ {Q : Nat → Prop} (step : ∀ j, Q (j + 1)) : Eventually Q :=
  Eventually.succ (P := fun _ => True) ⟨0, fun _ _ => trivial⟩ fun j _ => step j

theorem Eventually.exists {P : Nat → Prop} (h : Eventually P) : ∃ k, P k :=
  let ⟨k0, hk⟩ := h; ⟨k0, hk k0 (Nat.le_refl _)⟩

end UH
