/-
Consequences of the big-step semantics (`BigStep.Eval`, sound for the machine), among them the natural-semantics rules of the
core calculus as derived rules: the call-by-need, lexically scoped reading of `docs/spec.md` (C02), each of them realised by
the machine through `Eval.sound`.
-/
import UH.Proofs.EvalRules
import UH.Proofs.Comp
namespace UH.BigStep
open UH Unforced Comp

theorem Eval.mono {s w task h r s' w'} (hev : Eval s w task h r s' w') : ∀ h', h ≤ h' → Eval s w task h' r s' w' := by
  intro h' hh
  induction hev using Eval.induct generalizing h' with
  | done s w h r => exact .done s w h' r
  | instr hi _ ih => exact (ih h' hh).instr hi
  | demand o hv _ _ ih1 ih2 => exact .demand o hv (ih1 h' hh) (ih2 h' hh)
  | call _ _ ih1 ih2 => exact .call (ih1 h' hh) (ih2 h' hh)
  | frameEnd o _ ih =>
    obtain ⟨h'', rfl⟩ : ∃ h'', h' = h'' + 1 := ⟨h' - 1, by omega⟩
    exact .frameEnd o (ih h'' (by omega))
  | frameTail _ _ ih1 ih2 =>
    obtain ⟨h'', rfl⟩ : ∃ h'', h' = h'' + 1 := ⟨h' - 1, by omega⟩
    exact .frameTail (ih1 h'' (by omega)) (ih2 (h'' + 1) (by omega))

theorem Reaches.fields {m m' : MState} (h : Reaches m m') :
    ∃ n, (runN n m).status = m'.status ∧ (runN n m).store = m'.store ∧ (runN n m).world = m'.world ∧
      (runN n m).tail = m'.tail ∧ (runN n m).resp = m'.resp := by
  obtain ⟨n, e⟩ := h
  exact ⟨n, congrArg (fun x => x.status) e, congrArg (fun x => x.store) e, congrArg (fun x => x.world) e,
    congrArg (fun x => x.tail) e, congrArg (fun x => x.resp) e⟩

/-- a derivation for the head coroutine is a finished run of the evaluator; in particular it never reports the stack limit -/
theorem Eval.run_head {s w c h r s' w'} (hev : Eval s w (.comp c) h r s' w') (hh : h < maxStackSize) :
    ∃ n, (runN n (initState s w c)).status = .done r ∧ (runN n (initState s w c)).store = s' ∧
      (runN n (initState s w c)).world = w' := by
  have hs := hev.sound (initState s w c) ⟨none, [], c⟩ [] true rfl rfl rfl rfl rfl rfl (by simpa [initState] using hh)
  have hfin : Reaches (initState s w c)
      { (upd (initState s w c) true [] { box := none, konts := [], cur := resCur r } s' w') with status := .done r } := by
    refine Reaches.trans hs (Reaches.step (by simp [initState]) ?_)
    rw [step_finished (M := initState s w c) (f := ⟨none, [], c⟩) rfl rfl rfl ⟨none, [], c⟩ rfl]
    exact Reaches.of_forget rfl
  obtain ⟨n, h1, h2, h3, _, _⟩ := hfin.fields
  exact ⟨n, h1, by simpa [upd, put] using h2, by simpa [upd, put] using h3⟩

/-- constant stack for tail loops (C05).  Let the frames for `t 0, t 1, …, t n` be such that the coroutine of
each `t i` (`i < n`) ends by handing over the delayed expression `t (i+1)` — a tail call — using at most
`h` frames of its own, and let the last one produce `r`.  Then the frame for `t 0` produces `r` within
`h + 1` frames: the number `n` of iterations does not occur in the bound. -/
theorem Eval.tail_iter {h : Nat} {r : Except ErrV Res} {s' : Store} {w' : World}
    (st : Nat → Store) (wd : Nat → World) (t : Nat → TId) (lit : Nat → Option Int) :
    ∀ (n : Nat),
    (∀ i, i < n → ∃ s1, Eval (st i) (wd i) (.comp (newFrame (st i) (t i)).cur) h
        (.ok (.arg (.thunk (t (i + 1)) (lit i)))) s1 (wd (i + 1)) ∧ st (i + 1) = setRequestor s1 (t (i + 1)) (some (t i))) →
    Eval (st n) (wd n) (.frame (t n)) (h + 1) r s' w' →
    Eval (st 0) (wd 0) (.frame (t 0)) (h + 1) r s' w' := by
  intro n
  induction n with
  | zero => intro _ hl; exact hl
  | succ n ih =>
    intro hb hl
    apply ih (fun i hi => hb i (by omega))
    obtain ⟨s1, hbody, hst⟩ := hb n (by omega)
    rw [hst] at hl
    exact .frameTail hbody hl

/-- what a frame runs for an unevaluated cell: `interpret(expr)` -/
def bodyOf (e : AST) (env : Env) : Comp Res := do let a ← interpret e env; pure (Res.arg a)

theorem newFrame_cur_none {s : Store} {t : TId} (h : (s.getCell t).value = none) :
    (newFrame s t).cur = bodyOf (s.getCell t).expr (s.getCell t).env := by
  simp [newFrame, h, bodyOf]

def alloc (s : Store) (e : AST) (env : Env) : Store := { s with cells := s.cells.push { expr := e, env := env } }

theorem getCell_alloc_new (s : Store) (e : AST) (env : Env) :
    (alloc s e env).getCell s.cells.size = { expr := e, env := env } := by
  rw [alloc, getCell_push, if_pos rfl]

theorem getCell_alloc_old (s : Store) (e : AST) (env : Env) (t : TId) (ht : t ≠ s.cells.size) :
    (alloc s e env).getCell t = s.getCell t := by
  rw [alloc, getCell_push, if_neg ht]

theorem rule_lit (s : Store) (w : World) (h : Nat) (n : Int) (sp : Span) (env : Env) :
    Eval s w (.comp (bodyOf (.lit n sp) env)) h (.ok (.arg (.strict (.int n)))) s w := by
  simp only [bodyOf, interpret, retV, Bind.bind, Comp.bind, pure]
  exact .ret _ _ _ _

/-- function reference: the `rel`-th enclosing function of the place of definition -/
theorem rule_funRef (s : Store) (w : World) (h : Nat) (rel : Int) (sp : Span) (env : Env) (f : FId)
    (hf : pyIndex env.funs (-rel - 1) = some f) :
    Eval s w (.comp (bodyOf (.funRef rel sp) env)) h (.ok (.arg (.strict (.fn f)))) s w := by
  simp only [bodyOf, interpret, hf, retV, Bind.bind, Comp.bind, pure]
  exact .ret _ _ _ _

/-- function definition: a new function object closing over the defining environment (and itself) -/
theorem rule_funDef (s : Store) (w : World) (h : Nat) (body : AST) (sp : Span) (env : Env) :
    Eval s w (.comp (bodyOf (.funDef body sp) env)) h (.ok (.arg (.strict (.fn s.fns.size))))
      { s with fns := s.fns.push (.closure body ⟨env.funs ++ [s.fns.size], env.args⟩) } w := by
  simp only [bodyOf, interpret, retV, Bind.bind, Comp.bind, pure]
  exact .newFn (.ret _ _ _ _)

/-- argument reference: the position expression is evaluated (in the referring environment); the
selected argument of the `relF`-th enclosing call is handed over unevaluated -/
theorem rule_argRef (s : Store) (w : World) (h : Nat) (a : AST) (relF : Int) (sp : Span) (env : Env)
    (frame : List Arg) (i : Int) (x : Arg) (s1 : Store) (w1 : World)
    (hfr : pyIndex env.args (-relF - 1) = some frame)
    (hpos : Eval (alloc s a env) w (.frame s.cells.size) h (.ok (.arg (.strict (.int i)))) s1 w1)
    (hi : 0 ≤ i ∧ i < frame.length) (hx : frame[i.toNat]? = some x) :
    Eval s w (.comp (bodyOf (.argRef a relF sp) env)) h (.ok (.arg x)) s1 w1 := by
  simp only [bodyOf, interpret, hfr, forceArg, Bind.bind, Comp.bind]
  refine .newThunk (.forceEvalOk ?_ hpos ?_)
  · exact congrArg Cell.value (getCell_alloc_new s a env)
  · simp only [checkType, Val.isInteger, List.all_cons, List.all_nil, Bool.and_true, if_true, Comp.bind, hi,
      and_self, hx, pure]
    exact .ret _ _ _ _

theorem mkThunks_cons (env : Env) (e : AST) (es : List AST) :
    mkThunks env (e :: es) = .newThunk e env (fun t => (mkThunks env es).bind (fun ts => .ret (Arg.thunk t (tagOf e) :: ts))) := rfl

/-- the store after `[Expr(arg, env) for arg in argv]`, and the argument tuple -/
def allocArgs (s : Store) (env : Env) : List AST → Store × List Arg
  | [] => (s, [])
  | e :: es =>
    let r := allocArgs (alloc s e env) env es
    (r.1, Arg.thunk s.cells.size (tagOf e) :: r.2)

theorem eval_mkThunks {env : Env} {w : World} {h : Nat} {r : Except ErrV Res} {s' : Store} {w' : World}
    (args : List AST) {k : List Arg → Comp Res} {s : Store}
    (hk : Eval (allocArgs s env args).1 w (.comp (k (allocArgs s env args).2)) h r s' w') :
    Eval s w (.comp (Comp.bind (mkThunks env args) k)) h r s' w' := by
  induction args generalizing k s with
  | nil => simpa [mkThunks, Comp.bind, allocArgs] using hk
  | cons e es ih =>
    rw [mkThunks_cons]
    simp only [Comp.bind]
    refine .newThunk ?_
    rw [Comp.bind_assoc]
    simp only [Comp.bind]
    exact ih (k := fun ts => k (Arg.thunk s.cells.size (tagOf e) :: ts)) hk

theorem allocArgs_size (env : Env) : ∀ (args : List AST) (s : Store),
    (allocArgs s env args).1.cells.size = s.cells.size + args.length := by
  intro args
  induction args with
  | nil => intro s; rfl
  | cons e es ih => intro s; simp only [allocArgs, ih, alloc, Heap.size_push, List.length_cons]; omega

theorem allocArgs_fns (env : Env) : ∀ (args : List AST) (s : Store), (allocArgs s env args).1.fns = s.fns := by
  intro args
  induction args with
  | nil => intro s; rfl
  | cons e es ih => intro s; simp only [allocArgs, ih, alloc]

theorem allocArgs_getCell (env : Env) (args : List AST) (s : Store) (t : TId) (ht : t < s.cells.size) :
    (allocArgs s env args).1.getCell t = s.getCell t := by
  induction args generalizing s with
  | nil => rfl
  | cons e es ih =>
    simp only [allocArgs]
    have h1 : t < (alloc s e env).cells.size := by simp only [alloc, Heap.size_push]; exact Nat.lt_succ_of_lt ht
    rw [ih (alloc s e env) h1, getCell_alloc_old s e env t (Nat.ne_of_lt ht)]

theorem interpret_call_nonlit (f : AST) (args : List AST) (sp : Span) (env : Env) (hf : tagOf f = none) :
    interpret (.call f args sp) env = .newThunk f env (fun tf => do
      let argv ← mkThunks env args
      let callee ← strictFunctional sp (.thunk tf none)
      checkCallee isBuiltinName sp callee true
      callArg (.apply callee sp argv)) := by
  cases f <;> first | rfl | (simp [tagOf] at hf)

/-- call (`f` is not an integer literal): the function expression and the argument expressions are delayed in the
caller's environment; the function expression is evaluated; what it gives is applied to the still unevaluated arguments -/
theorem rule_call (s : Store) (w : World) (h : Nat) (f : AST) (args : List AST) (sp : Span) (env : Env)
    {callee : Val} {s1 : Store} {w1 : World} {a : Arg} {s2 : Store} {w2 : World} (hf : tagOf f = none)
    (hcallee : Eval (allocArgs (alloc s f env) env args).1 w (.frame s.cells.size) h (.ok (.arg (.strict callee))) s1 w1)
    (hc : callee.isCallable = true) (hcc : checkCallee isBuiltinName sp callee true = .ret ())
    (happ : Eval s1 w1 (.comp (expand (.apply callee sp (allocArgs (alloc s f env) env args).2))) h (.ok (.arg a)) s2 w2) :
    Eval s w (.comp (bodyOf (.call f args sp) env)) h (.ok (.arg a)) s2 w2 := by
  simp only [bodyOf, interpret_call_nonlit f args sp env hf, Bind.bind, Comp.bind]
  refine .newThunk ?_
  rw [Comp.bind_assoc]
  refine eval_mkThunks args (s := alloc s f env) ?_
  simp only [strictFunctional, forceArg]
  refine .forceEvalOk ?_ hcallee ?_
  · rw [allocArgs_getCell env args _ _ (by simp [alloc]), getCell_alloc_new]
  · simp only [checkType, hc, List.all_cons, List.all_nil, Bool.and_true, if_true, Bind.bind, Comp.bind, pure, hcc, callArg]
    exact .callOk happ (.ret _ _ _ _)

/-- call of a closure: the result is the closure's body, delayed in the environment the closure
captured — extended by the still unevaluated arguments — and handed over unevaluated (a tail
return).  The caller's environment does not occur in the body's environment. -/
theorem rule_call_closure (s : Store) (w : World) (h : Nat) (f : AST) (args : List AST) (sp : Span) (env : Env)
    (fid : FId) (body : AST) (cenv : Env) (s1 : Store) (w1 : World)
    (hf : tagOf f = none)
    (hcallee : Eval (allocArgs (alloc s f env) env args).1 w (.frame s.cells.size) h
        (.ok (.arg (.strict (.fn fid)))) s1 w1)
    (hfn : s1.fns.get? fid = some (.closure body cenv)) :
    Eval s w (.comp (bodyOf (.call f args sp) env)) h
      (.ok (.arg (.thunk s1.cells.size (tagOf body))))
      (alloc s1 body ⟨cenv.funs, cenv.args ++ [(allocArgs (alloc s f env) env args).2]⟩) w1 := by
  refine rule_call s w h f args sp env hf hcallee rfl rfl ?_
  simp only [expand, applyCallee, Bind.bind, Comp.bind, pure]
  exact .getFn hfn (.newThunk (.ret _ _ _ _))

/-- β, call by need: the frame of a call expression whose function part evaluates to a closure is
replaced by the frame of the closure's body — its outcome is the body's outcome, at the same height -/
theorem rule_beta (s : Store) (w : World) (h : Nat) (t : TId) (f : AST) (args : List AST) (sp : Span) (env : Env)
    (fid : FId) (body : AST) (cenv : Env) (s1 : Store) (w1 : World) (r : Except ErrV Res) (s' : Store) (w' : World)
    (hcell : (s.getCell t).value = none) (hexpr : (s.getCell t).expr = .call f args sp) (henv : (s.getCell t).env = env)
    (hf : tagOf f = none)
    (hcallee : Eval (allocArgs (alloc s f env) env args).1 w (.frame s.cells.size) h
        (.ok (.arg (.strict (.fn fid)))) s1 w1)
    (hfn : s1.fns.get? fid = some (.closure body cenv))
    (hbody : Eval (setRequestor (alloc s1 body ⟨cenv.funs, cenv.args ++ [(allocArgs (alloc s f env) env args).2]⟩)
        s1.cells.size (some t)) w1 (.frame s1.cells.size) (h + 1) r s' w') :
    Eval s w (.frame t) (h + 1) r s' w' := by
  refine .frameTail (t' := s1.cells.size) (lit := tagOf body) ?_ hbody
  rw [newFrame_cur_none hcell, hexpr, henv]
  exact rule_call_closure s w h f args sp env fid body cenv s1 w1 hf hcallee hfn

end UH.BigStep
