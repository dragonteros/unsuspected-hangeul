/-
The tokenizer on normalised symbols: if every `ㅇ`/`ㅎ` of the input comes right after a separator (`shapeOk`, true of every
image of `normChar`), every token is one non-separator symbol followed by digits (`tokenizeGo_wordShape`), so `classify` never
fails on tokenizer output (`classify_tokens`).
-/
import UH.Model.Parse
namespace UH

/-- every `ㅇ`/`ㅎ` is immediately preceded by a separator (`prev` = "the previous symbol was one") -/
def shapeGo : Bool → List Sym → Bool
  | _, [] => true
  | prev, s :: r => (match s with | .o | .h => prev | _ => true) && shapeGo s.isSp r

def shapeOk (l : List Sym) : Bool := shapeGo false l

theorem shapeGo_mono (l : List Sym) : shapeGo false l = true → shapeGo true l = true := by
  cases l with
  | nil => simp [shapeGo]
  | cons s r => cases s <;> simp [shapeGo]

theorem shapeGo_append (p : Bool) (a b : List Sym) (ha : shapeGo p a = true) (hb : shapeGo false b = true) :
    shapeGo p (a ++ b) = true := by
  induction a generalizing p with
  | nil =>
    cases p
    · simpa using hb
    · simpa using shapeGo_mono b hb
  | cons s r ih =>
    simp only [shapeGo, Bool.and_eq_true] at ha
    simp only [List.cons_append, shapeGo, Bool.and_eq_true]
    exact ⟨ha.1, ih _ ha.2⟩

def wordShape (syms : List Sym) : Prop :=
  ∃ hd ds, syms = hd :: List.map Sym.d ds ∧ hd ≠ Sym.sp

theorem symDigits_map (ds : List Digit) : symDigits (ds.map Sym.d) = some ds := by
  induction ds with
  | nil => rfl
  | cons d ds ih => simp [symDigits, ih]

theorem classify_wordShape (syms : List Sym) (h : wordShape syms) : (classify syms).isSome = true := by
  obtain ⟨hd, ds, rfl, hne⟩ := h
  cases hd with
  | d n => simp [classify, symDigits_map]
  | o => simp [classify, symDigits_map]
  | h => simp [classify, symDigits_map]
  | sp => exact absurd rfl hne

theorem tokenizeGo_wordShape (xs : List (Sym × Span)) (cur : Option Token)
    (hc : ∀ t, cur = some t → wordShape t.syms) (hs : shapeGo cur.isNone (xs.map (·.1)) = true) :
    ∀ t ∈ tokenizeGo cur xs, wordShape t.syms := by
  intro t ht
  induction xs generalizing cur with
  | nil =>
    cases cur with
    | none => simp [tokenizeGo] at ht
    | some t0 => simp [tokenizeGo] at ht; subst ht; exact hc _ rfl
  | cons x xs ih =>
    obtain ⟨s, sp⟩ := x
    simp only [List.map_cons, shapeGo, Bool.and_eq_true] at hs
    cases hsp : s.isSp with
    | true =>
      rw [hsp] at hs
      have hrest := ih none (by intro t h; cases h) hs.2
      cases cur with
      | none =>
        simp only [tokenizeGo, hsp, if_true] at ht
        exact hrest ht
      | some t0 =>
        simp only [tokenizeGo, hsp, if_true, List.mem_cons] at ht
        rcases ht with rfl | ht
        · exact hc _ rfl
        · exact hrest ht
    | false =>
      rw [hsp] at hs
      have hne : s ≠ Sym.sp := by rintro rfl; cases hsp
      cases cur with
      | none =>
        simp only [tokenizeGo, hsp, Bool.false_eq_true, if_false] at ht
        exact ih (some ⟨[s], sp⟩) (by intro t0 h0; cases h0; exact ⟨s, [], rfl, hne⟩) hs.2 ht
      | some t0 =>
        simp only [tokenizeGo, hsp, Bool.false_eq_true, if_false] at ht
        refine ih (some _) ?_ hs.2 ht
        intro t1 h1; cases h1
        obtain ⟨hd, ds, he, hne'⟩ := hc t0 rfl
        -- the word goes on only with a digit: `ㅇ`/`ㅎ` would need a separator before them (`hs.1`)
        have hs1 := hs.1
        cases s with
        | d n => exact ⟨hd, ds ++ [n], by simp [he], hne'⟩
        | o => simp at hs1
        | h => simp at hs1
        | sp => exact absurd rfl hne

section
variable (norm : Nat → List Sym) (hnorm : ∀ c, shapeOk (norm c) = true)
include hnorm

theorem lineSyms_go_shape (i j : Nat) (cs : List Nat) :
    shapeGo false ((lineSyms.go norm i j cs).map (·.1)) = true := by
  induction cs generalizing j with
  | nil => simp [lineSyms.go, shapeGo]
  | cons c cs ih =>
    simp only [lineSyms.go, List.map_append, List.map_map]
    refine shapeGo_append _ _ _ ?_ (ih (j + 1))
    simpa [Function.comp_def, shapeOk] using hnorm c

theorem linesSyms_shape (i : Nat) (ls : List (List Nat)) :
    shapeGo false ((linesSyms norm i ls).map (·.1)) = true := by
  induction ls generalizing i with
  | nil => simp [linesSyms, shapeGo]
  | cons l ls ih =>
    simp only [linesSyms, List.map_append]
    exact shapeGo_append _ _ _ (lineSyms_go_shape norm hnorm i 0 _) (ih (i + 1))

/-- every token the tokenizer produces is a well-formed word
(`[ㅇㅎ]? digit*`, non-empty), so `parse_token` always follows a documented branch -/
theorem classify_tokens (text : List Nat) :
    ∀ t ∈ tokenize norm text, (classify t.syms).isSome = true := by
  intro t ht
  apply classify_wordShape
  refine tokenizeGo_wordShape _ none (by intro t h; cases h) ?_ t ht
  exact shapeGo_mono _ (linesSyms_shape norm hnorm 0 _)
end

end UH
