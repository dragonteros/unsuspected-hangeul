/-
`specRuns` (committed run-length table) is exactly the specification map
`specNorm`, for every code point.

Beyond U+FFFF both sides are a lone separator (bounds of the tables).  Below, each
letter of the specification's table is looked up in the runs, and between the letters
a verified interval checker does the rest: `specCells` partitions [0, 0x10000) into
intervals on which both sides are provably constant, and the kernel evaluates both
sides at the left end of each proper interval.
-/
import UH.Spec.Hangul
import UH.Spec.SpecRuns
import UH.Spec.SpecCells
namespace UH.Spec
open UH

theorem lookupRuns_all (p : List Sym → Prop) (runs : List Run) (c : Nat) (hsp : p [Sym.sp])
    (h : ∀ r ∈ runs, p r.syms) : p (lookupRuns runs c) := by
  induction runs with
  | nil => exact hsp
  | cons r rs ih =>
    simp only [lookupRuns]
    split
    · exact h r List.mem_cons_self
    · exact ih fun r hr => h r (List.mem_cons_of_mem _ hr)

theorem lookupRuns_above (runs : List Run) (B c : Nat)
    (h : runs.all (fun r => decide (r.hi < B)) = true) (hc : B ≤ c) :
    lookupRuns runs c = [Sym.sp] := by
  induction runs with
  | nil => rfl
  | cons r rs ih =>
    simp only [List.all_cons, Bool.and_eq_true, decide_eq_true_eq] at h
    have : ¬ (r.lo ≤ c ∧ c ≤ r.hi) := by omega
    simp only [lookupRuns, this, if_false]
    exact ih h.2

theorem lookup_above {β} (l : List (Nat × β)) (B c : Nat)
    (h : l.all (fun r => decide (r.1 < B)) = true) (hc : B ≤ c) : l.lookup c = none :=
  List.lookup_eq_none_iff.mpr fun p hp => by
    have := List.all_eq_true.mp h p hp
    simp at this ⊢; omega

theorem inRanges_above (rs : List (Nat × Nat)) (B c : Nat)
    (h : rs.all (fun r => decide (r.2 < B)) = true) (hc : B ≤ c) : inRanges rs c = false :=
  List.any_eq_false.mpr fun r hr => by
    have := List.all_eq_true.mp h r hr
    simp at this ⊢; omega

theorem specNorm_above (c : Nat) (hc : 0x10000 ≤ c) : specNorm c = [Sym.sp] := by
  have h1 : isSyllable c = false := by simp [isSyllable]; omega
  have h2 : letterSyms c = none := by
    simp [letterSyms, letterOf, lookup_above letters 0x10000 c (by decide) hc]
  have h3 := inRanges_above hangulRanges 0x10000 c (by decide) hc
  simp [specNorm, h1, h2, h3]

theorem lookupRuns_congr (runs : List Run) (c a : Nat)
    (h : ∀ r ∈ runs, (r.lo ≤ c ∧ c ≤ r.hi) ↔ (r.lo ≤ a ∧ a ≤ r.hi)) :
    lookupRuns runs c = lookupRuns runs a := by
  induction runs with
  | nil => rfl
  | cons r rs ih =>
    simp only [lookupRuns, h r List.mem_cons_self, ih fun r hr => h r (List.mem_cons_of_mem _ hr)]

def runsUniform (runs : List Run) (a b : Nat) : Bool :=
  runs.all (fun r => decide (r.hi < a) || decide (b < r.lo) || (decide (r.lo ≤ a) && decide (b ≤ r.hi)))

theorem lookupRuns_const (runs : List Run) (a b c : Nat) (h : runsUniform runs a b = true)
    (h1 : a ≤ c) (h2 : c ≤ b) : lookupRuns runs c = lookupRuns runs a :=
  lookupRuns_congr runs c a fun r hr => by
    have := List.all_eq_true.mp h r hr
    simp at this; omega

def keysOutside {β} (l : List (Nat × β)) (a b : Nat) : Bool :=
  l.all (fun r => decide (r.1 < a) || decide (b < r.1))

theorem lookup_outside {β} (l : List (Nat × β)) (a b c : Nat) (h : keysOutside l a b = true)
    (h1 : a ≤ c) (h2 : c ≤ b) : l.lookup c = none :=
  List.lookup_eq_none_iff.mpr fun p hp => by
    have := List.all_eq_true.mp h p hp
    simp at this ⊢; omega

def rangesUniform (rs : List (Nat × Nat)) (a b : Nat) : Bool :=
  rs.all (fun r => decide (r.2 < a) || decide (b < r.1) || (decide (r.1 ≤ a) && decide (b ≤ r.2)))

theorem inRanges_const (rs : List (Nat × Nat)) (a b c : Nat) (h : rangesUniform rs a b = true)
    (h1 : a ≤ c) (h2 : c ≤ b) : inRanges rs c = inRanges rs a := by
  simp only [rangesUniform, List.all_eq_true, Bool.or_eq_true, Bool.and_eq_true, decide_eq_true_eq] at h
  rw [Bool.eq_iff_iff]
  simp only [inRanges, List.any_eq_true, Bool.and_eq_true, decide_eq_true_eq]
  constructor <;> rintro ⟨r, hr, _⟩ <;> exact ⟨r, hr, by have := h r hr; omega⟩

def syllableUniform (a b : Nat) : Bool :=
  (decide (b < 0xAC00) || decide (0xD7A3 < a)) ||
  (decide (0xAC00 ≤ a) && decide (b ≤ 0xD7A3) && ((a - 0xAC00) / 588 == (b - 0xAC00) / 588))

def checkCell (ab : Nat × Nat) : Bool :=
  runsUniform specRuns ab.1 ab.2 &&
  (ab.1 == ab.2 || keysOutside letters ab.1 ab.2) &&
  rangesUniform hangulRanges ab.1 ab.2 &&
  syllableUniform ab.1 ab.2 &&
  decide (lookupRuns specRuns ab.1 = specNorm ab.1)

theorem specNorm_congr (c a : Nat) (hs : isSyllable c = isSyllable a)
    (hi : isSyllable a = true → syllableInitial c = syllableInitial a)
    (hl : letterOf c = letterOf a) (hr : inRanges hangulRanges c = inRanges hangulRanges a) :
    specNorm c = specNorm a := by
  cases h : isSyllable a
  · simp [specNorm, hs, h, letterSyms, hl, hr]
  · simp [specNorm, hs, h, hi h]

theorem syllable_const (a b c : Nat) (hs : syllableUniform a b = true) (h1 : a ≤ c) (h2 : c ≤ b) :
    isSyllable c = isSyllable a ∧ (isSyllable a = true → syllableInitial c = syllableInitial a) := by
  simp only [syllableUniform, Bool.or_eq_true, Bool.and_eq_true, decide_eq_true_eq, beq_iff_eq] at hs
  rw [Bool.eq_iff_iff]
  simp only [isSyllable, syllableInitial, Bool.and_eq_true, decide_eq_true_eq]
  -- `[a, b]` misses the syllable block, or lies in it with `a` and `b` in one run of 588 (one initial): `c` is squeezed between
  omega

theorem specNorm_const (a b c : Nat) (hk : keysOutside letters a b = true)
    (hr : rangesUniform hangulRanges a b = true)
    (hs : syllableUniform a b = true) (h1 : a ≤ c) (h2 : c ≤ b) : specNorm c = specNorm a := by
  have ⟨s1, s2⟩ := syllable_const a b c hs h1 h2
  refine specNorm_congr c a s1 s2 ?_ (inRanges_const hangulRanges a b c hr h1 h2)
  rw [letterOf, letterOf, lookup_outside letters a b c hk h1 h2,
    lookup_outside letters a b a hk (Nat.le_refl _) (by omega)]

theorem checkCell_sound (ab : Nat × Nat) (h : checkCell ab = true) (c : Nat)
    (h1 : ab.1 ≤ c) (h2 : c ≤ ab.2) : lookupRuns specRuns c = specNorm c := by
  simp only [checkCell, Bool.and_eq_true, Bool.or_eq_true, beq_iff_eq, decide_eq_true_eq] at h
  obtain ⟨⟨⟨⟨hr, hk⟩, hg⟩, hs⟩, he⟩ := h
  rcases hk with hab | hk
  · rw [show c = ab.1 by omega, he]
  · rw [lookupRuns_const specRuns ab.1 ab.2 c hr h1 h2, specNorm_const ab.1 ab.2 c hk hg hs h1 h2, he]

def chainOk : Nat → List (Nat × Nat) → Nat → Bool
  | s, [], e => s == e
  | s, ab :: cs, e => ab.1 == s && decide (ab.1 ≤ ab.2) && chainOk (ab.2 + 1) cs e

theorem chainOk_covers : ∀ (cells : List (Nat × Nat)) (s e : Nat), chainOk s cells e = true →
    ∀ c, s ≤ c → c < e → ∃ ab ∈ cells, ab.1 ≤ c ∧ c ≤ ab.2 := by
  intro cells
  induction cells with
  | nil =>
    intro s e h c h1 h2
    simp [chainOk] at h; omega
  | cons ab cs ih =>
    intro s e h c h1 h2
    simp only [chainOk, Bool.and_eq_true, beq_iff_eq, decide_eq_true_eq] at h
    obtain ⟨⟨ha, hb⟩, hc⟩ := h
    by_cases hle : c ≤ ab.2
    · exact ⟨ab, List.mem_cons_self, by omega, hle⟩
    · obtain ⟨x, hx, hx'⟩ := ih (ab.2 + 1) e hc c (by omega) h2
      exact ⟨x, List.mem_cons_of_mem _ hx, hx'⟩

theorem specCells_chain : chainOk 0 specCells 0x10000 = true := by decide +kernel

theorem letter_not_syllable (c : Nat) (js : List Jamo) (h : letterOf c = some js) :
    isSyllable c = false := by
  cases hs : isSyllable c with
  | false => rfl
  | true =>
    simp [isSyllable] at hs
    have := lookup_outside letters 0xAC00 0xD7A3 c (by decide +kernel) hs.1 hs.2
    simp [letterOf, this] at h

/-! The 218 letters are compared with the runs through the letter table itself (no lookup into it); the one-point cells
of the certificate are exactly these letters, so `checkCell` is evaluated on the 42 proper intervals only (its disjunct
`ab.1 == ab.2 ||`, for one-point cells, is then never the one that decides). -/

theorem letters_checked : letters.all (fun kv => lookupRuns specRuns kv.1 == kv.2.flatMap plain) = true := by
  decide +kernel

theorem specCells_points :
    (specCells.filter fun ab => ab.1 == ab.2).map (·.1) = letters.map (·.1) := by decide +kernel

theorem specCells_checked : specCells.all (fun ab => ab.1 == ab.2 || checkCell ab) = true := by decide +kernel

theorem specRuns_correct (c : Nat) : lookupRuns specRuns c = specNorm c := by
  by_cases hc : c < 0x10000
  · cases hl : letterOf c with
    | some js =>
      -- a letter: its entry in the table has been compared with the runs
      obtain ⟨l₁, l₂, hm, _⟩ := List.lookup_eq_some_iff.mp hl
      have h := beq_iff_eq.mp (List.all_eq_true.mp letters_checked (c, js) (by rw [hm]; simp))
      simp [specNorm, letterSyms, letter_not_syllable c js hl, hl, h]
    | none =>
      obtain ⟨ab, hab, h1, h2⟩ := chainOk_covers specCells 0 0x10000 specCells_chain c (Nat.zero_le _) hc
      rcases Bool.or_eq_true_iff.mp (List.all_eq_true.mp specCells_checked ab hab) with hp | h
      · -- a one-point cell is a letter: `c = ab.1 = p.1` for an entry `p` of the table, which `hl` excludes
        have hk : ab.1 ∈ letters.map (·.1) :=
          specCells_points ▸ List.mem_map_of_mem (List.mem_filter.mpr ⟨hab, hp⟩)
        obtain ⟨p, hm, hpk⟩ := List.mem_map.mp hk
        have hne : (c != p.1) = true := List.lookup_eq_none_iff.mp hl p hm
        have hcp : c = p.1 := by have := beq_iff_eq.mp hp; omega
        simp [hcp] at hne
      · exact checkCell_sound ab h c h1 h2
  · rw [lookupRuns_above specRuns 0x10000 c (by decide) (by omega), specNorm_above c (by omega)]

end UH.Spec
