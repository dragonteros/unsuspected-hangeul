/-
Adequacy: the evaluator's call-by-need big-step semantics (`BigStep.Eval`, hence the machine) computes the values the
call-by-name reference semantics `BN` (UH/Proofs/ByName.lean) assigns.

Every heap object is given a tree (`Ghost`): a delayed expression the tree environment it is to be read in, a function
object its closure.  The invariant `Inv` relates the heap to these trees — a memo cell holds the by-name value of its
expression, a requestor link connects expressions of equal by-name value — and `adequacy_at` (restated as `adequacy`) is an induction on `BN` that
maintains it: memoisation, sharing through requestor chains and tail returns never change a result.
-/
import UH.Proofs.ByName
import UH.Proofs.PyIndex
import UH.Proofs.NatSemMemo
import UH.Proofs.NatSemPrim
namespace UH.ByName
open UH BigStep Comp

structure Ghost where
  cellEnv : TId → TEnv
  fnClo : FId → AST × TEnv

def ghost0 : Ghost := ⟨fun _ => default, fun _ => (.bomb, default)⟩

def Ghost.setCell (G : Ghost) (t : TId) (ρ : TEnv) : Ghost :=
  { G with cellEnv := fun u => if u = t then ρ else G.cellEnv u }
def Ghost.setFn (G : Ghost) (f : FId) (c : AST × TEnv) : Ghost :=
  { G with fnClo := fun g => if g = f then c else G.fnClo g }

def trArg (G : Ghost) (s : Store) : Arg → AST × TEnv
  | .thunk t _ => ((s.getCell t).expr, G.cellEnv t)
  | .strict _ => (.bomb, default)

def trEnv (G : Ghost) (s : Store) (env : Env) : TEnv :=
  .mk (env.funs.map G.fnClo) (env.args.map (fun fr => fr.map (trArg G s)))

/-- `Scoped.args` and the second premise of `RVal.list` are this, written out -/
def Delayed (s : Store) (l : List Arg) : Prop := ∀ a ∈ l, ∃ t lit, a = .thunk t lit ∧ (s.cells.get? t).isSome

structure Scoped (s : Store) (env : Env) : Prop where
  funs : ∀ f ∈ env.funs, ∃ b cenv, s.fns.get? f = some (.closure b cenv)
  args : ∀ fr ∈ env.args, ∀ a ∈ fr, ∃ t lit, a = .thunk t lit ∧ (s.cells.get? t).isSome

structure Ext (G : Ghost) (s : Store) (G' : Ghost) (s' : Store) : Prop where
  cells : ∀ t, (s.cells.get? t).isSome → (s'.cells.get? t).isSome ∧ (s'.getCell t).expr = (s.getCell t).expr ∧
      (s'.getCell t).env = (s.getCell t).env ∧ G'.cellEnv t = G.cellEnv t
  fns : ∀ f o, s.fns.get? f = some o → s'.fns.get? f = some o ∧ G'.fnClo f = G.fnClo f

theorem Ext.refl (G : Ghost) (s : Store) : Ext G s G s :=
  ⟨fun _ h => ⟨h, rfl, rfl, rfl⟩, fun _ _ h => ⟨h, rfl⟩⟩

theorem Ext.trans {G1 s1 G2 s2 G3 s3} (a : Ext G1 s1 G2 s2) (b : Ext G2 s2 G3 s3) : Ext G1 s1 G3 s3 := by
  refine ⟨fun t h => ?_, fun f o h => ?_⟩
  · obtain ⟨h1, e1, n1, g1⟩ := a.cells t h
    obtain ⟨h2, e2, n2, g2⟩ := b.cells t h1
    exact ⟨h2, e2.trans e1, n2.trans n1, g2.trans g1⟩
  · obtain ⟨h1, g1⟩ := a.fns f o h
    obtain ⟨h2, g2⟩ := b.fns f o h1
    exact ⟨h2, g2.trans g1⟩

theorem Delayed.ext {G s G' s' l} (h : Delayed s l) (e : Ext G s G' s') : Delayed s' l := by
  intro a ha
  obtain ⟨t, lit, rfl, ht⟩ := h a ha
  exact ⟨t, lit, rfl, (e.cells t ht).1⟩

def Holds (G : Ghost) (s : Store) (u : TId) (e : AST) (ρ : TEnv) : Prop :=
  (s.cells.get? u).isSome ∧ (s.getCell u).expr = e ∧ G.cellEnv u = ρ

theorem Holds.ext {G s G' s' u e ρ} (h : Holds G s u e ρ) (ex : Ext G s G' s') : Holds G' s' u e ρ := by
  obtain ⟨h0, h1, _, h2⟩ := ex.cells u h.1
  exact ⟨h0, h1.trans h.2.1, h2.trans h.2.2⟩

theorem Scoped.ext {G s G' s' env} (h : Scoped s env) (e : Ext G s G' s') : Scoped s' env := by
  refine ⟨fun f hf => ?_, fun fr hfr => Delayed.ext (h.args fr hfr) e⟩
  obtain ⟨b, cenv, hg⟩ := h.funs f hf
  exact ⟨b, cenv, (e.fns f _ hg).1⟩

theorem map_trArg_ext {G s G' s'} (e : Ext G s G' s') {l : List Arg} (h : Delayed s l) :
    l.map (trArg G' s') = l.map (trArg G s) := by
  apply List.map_congr_left
  intro a ha
  obtain ⟨t, lit, rfl, ht⟩ := h a ha
  obtain ⟨_, e1, _, g1⟩ := e.cells t ht
  simp only [trArg, e1, g1]

theorem trEnv_ext {G s G' s' env} (h : Scoped s env) (e : Ext G s G' s') : trEnv G' s' env = trEnv G s env := by
  unfold trEnv
  congr 1
  · apply List.map_congr_left
    intro f hf
    obtain ⟨b, cenv, hg⟩ := h.funs f hf
    exact (e.fns f _ hg).2
  · apply List.map_congr_left
    intro fr hfr
    exact map_trArg_ext e (h.args fr hfr)

def Den (G : Ghost) (s : Store) (t : TId) (tv : TVal) : Prop := BN (G.cellEnv t) (s.getCell t).expr tv

inductive RVal (G : Ghost) (s : Store) : Val → TVal → Prop
  | int (n : Int) : RVal G s (.int n) (.int n)
  | bool (b : Bool) : RVal G s (.bool b) (.bool b)
  | fn {f b ρ cenv} : s.fns.get? f = some (.closure b cenv) → G.fnClo f = (b, ρ) → RVal G s (.fn f) (.clo b ρ)
  | list {xs elems} : xs.map (trArg G s) = elems →
      (∀ a ∈ xs, ∃ t lit, a = .thunk t lit ∧ (s.cells.get? t).isSome) → RVal G s (.list xs) (.list elems)

structure Inv (G : Ghost) (s : Store) : Prop where
  cellEnv : ∀ t, (s.cells.get? t).isSome → G.cellEnv t = trEnv G s (s.getCell t).env
  cellScoped : ∀ t, (s.cells.get? t).isSome → Scoped s (s.getCell t).env
  fnClo : ∀ f b cenv, s.fns.get? f = some (.closure b cenv) →
    ∃ funs', cenv.funs = funs' ++ [f] ∧ G.fnClo f = (b, trEnv G s ⟨funs', cenv.args⟩) ∧ Scoped s ⟨funs', cenv.args⟩
  memo : ∀ t v, (s.getCell t).value = some (.ok v) → ∀ tv, Den G s t tv → RVal G s v tv
  noErr : ∀ t e, (s.getCell t).value ≠ some (.error e)
  link : ∀ t u, (s.getCell t).requestor = some u → ∀ tv, Den G s t tv → Den G s u tv
  linkEx : ∀ t u, (s.getCell t).requestor = some u → (s.cells.get? u).isSome
  wf : HeapWF s.cells
  wfF : HeapWF s.fns

theorem RVal.ext {G s G' s' v tv} (h : RVal G s v tv) (e : Ext G s G' s') : RVal G' s' v tv := by
  cases h with
  | int n => exact .int n
  | bool b => exact .bool b
  | fn hg hc => obtain ⟨h1, h2⟩ := e.fns _ _ hg; exact .fn h1 (h2.trans hc)
  | list hm hs =>
    exact .list (by rw [← hm]; exact map_trArg_ext e hs) (Delayed.ext hs e)

theorem Den.ext {G s G' s' t tv} (e : Ext G s G' s') (ht : (s.cells.get? t).isSome) :
    Den G' s' t tv ↔ Den G s t tv := by
  obtain ⟨_, e1, _, g1⟩ := e.cells t ht
  unfold Den; rw [e1, g1]

theorem Den.iff {G : Ghost} {s : Store} {t : TId} {e : AST} {ρ : TEnv} {tv : TVal}
    (he : (s.getCell t).expr = e) (hρ : G.cellEnv t = ρ) : Den G s t tv ↔ BN ρ e tv := by
  unfold Den; rw [he, hρ]

theorem getCell_of_get? {s : Store} {t : TId} {c : Cell} (h : s.cells.get? t = some c) : s.getCell t = c := by
  simp [Store.getCell, Heap.getD_eq, h]

/-- stores that differ only in what evaluation has learned (values, requestor links) -/
structure SameStatic (s s' : Store) : Prop where
  fns : s'.fns = s.fns
  size : s'.cells.size = s.cells.size
  ex : ∀ t, (s'.cells.get? t).isSome = (s.cells.get? t).isSome
  expr : ∀ t, (s'.getCell t).expr = (s.getCell t).expr
  env : ∀ t, (s'.getCell t).env = (s.getCell t).env

theorem SameStatic.refl (s : Store) : SameStatic s s := ⟨rfl, rfl, fun _ => rfl, fun _ => rfl, fun _ => rfl⟩

theorem SameStatic.trans {a b c : Store} (h1 : SameStatic a b) (h2 : SameStatic b c) : SameStatic a c :=
  ⟨h2.fns.trans h1.fns, h2.size.trans h1.size, fun t => (h2.ex t).trans (h1.ex t), fun t => (h2.expr t).trans (h1.expr t),
   fun t => (h2.env t).trans (h1.env t)⟩

theorem sameStatic_modify (s : Store) (a : TId) (f : Cell → Cell) (he : ∀ c, (f c).expr = c.expr)
    (hn : ∀ c, (f c).env = c.env) : SameStatic s { s with cells := s.cells.modify a f } :=
  ⟨rfl, rfl, fun _ => Heap.isSome_get?_modify .., fun t => getCell_modify_proj (·.expr) s a t he,
    fun t => getCell_modify_proj (·.env) s a t hn⟩

theorem sameStatic_setValue (s : Store) (a : TId) (o : Outcome) : SameStatic s (s.setValue a o) :=
  sameStatic_modify s a _ (fun _ => rfl) (fun _ => rfl)

theorem sameStatic_setRequestor (s : Store) (a : TId) (b : Option TId) : SameStatic s (setRequestor s a b) :=
  sameStatic_modify s a _ (fun _ => rfl) (fun _ => rfl)

theorem sameStatic_resolve (o : Outcome) : ∀ (fuel : Nat) (s : Store) (a : TId), SameStatic s (s.resolve fuel a o) :=
  Store.resolve_induction SameStatic.refl SameStatic.trans sameStatic_setValue o

theorem SameStatic.ext {s s' : Store} (h : SameStatic s s') (G : Ghost) : Ext G s G s' := by
  refine ⟨fun t ht => ⟨by rw [h.ex t]; exact ht, h.expr t, h.env t, rfl⟩, fun f o hf => ⟨by rw [h.fns]; exact hf, rfl⟩⟩

theorem SameStatic.scoped {s s' : Store} (h : SameStatic s s') {env : Env} (hs : Scoped s env) : Scoped s' env :=
  hs.ext (h.ext ghost0)  -- `Scoped.ext` reads only the store half of the `Ext`; any ghost will do

theorem SameStatic.den {s s' : Store} (h : SameStatic s s') (G : Ghost) (t : TId) (tv : TVal) : Den G s' t tv ↔ Den G s t tv := by
  unfold Den; rw [h.expr t]

theorem SameStatic.rval {s s' : Store} (h : SameStatic s s') {G : Ghost} {v tv} (r : RVal G s v tv) : RVal G s' v tv :=
  r.ext (h.ext G)

theorem Inv.envTree {G s} (inv : Inv G s) {t : TId} {ρ : TEnv} (hex : (s.cells.get? t).isSome) (hρ : G.cellEnv t = ρ) :
    ρ = trEnv G s (s.getCell t).env :=
  hρ.symm.trans (inv.cellEnv t hex)

theorem Inv.link_hop {G s} (inv : Inv G s) {t : TId} (k : Nat) {u : TId} (h : C13.hop s t k = some u) {tv : TVal}
    (hd : Den G s t tv) : Den G s u tv := by
  induction k generalizing u with
  | zero => cases h; exact hd
  | succ k ih =>
    rw [C13.hop] at h
    cases hm : C13.hop s t k with
    | none => rw [hm] at h; cases h
    | some m => rw [hm] at h; exact inv.link m u h tv (ih hm)

/-- the obligations are stated about the old store -/
theorem Inv.of_sameStatic {G s s'} (inv : Inv G s) (st : SameStatic s s')
    (memo : ∀ t v, (s'.getCell t).value = some (.ok v) → ∀ tv, Den G s t tv → RVal G s v tv)
    (noErr : ∀ t e, (s'.getCell t).value ≠ some (.error e))
    (link : ∀ t u, (s'.getCell t).requestor = some u → (∀ tv, Den G s t tv → Den G s u tv) ∧ (s.cells.get? u).isSome) :
    Inv G s' := by
  refine { cellEnv := ?cellEnv, cellScoped := ?cellScoped, fnClo := ?fnClo, memo := ?memo, noErr := noErr, link := ?link,
           linkEx := ?linkEx, wf := fun i hi => by rw [st.size]; exact inv.wf i (by rw [← st.ex i]; exact hi), wfF := ?wfF }
  case cellEnv =>
    intro x hx
    have hx : (s.cells.get? x).isSome := by rw [← st.ex x]; exact hx
    rw [st.env x, trEnv_ext (inv.cellScoped x hx) (st.ext G)]; exact inv.cellEnv x hx
  case cellScoped =>
    intro x hx; rw [st.env x]; exact st.scoped (inv.cellScoped x (by rw [← st.ex x]; exact hx))
  case fnClo =>
    intro f b cenv hf
    rw [st.fns] at hf
    obtain ⟨funs', h1, h2, h3⟩ := inv.fnClo f b cenv hf
    exact ⟨funs', h1, by rw [trEnv_ext h3 (st.ext G)]; exact h2, st.scoped h3⟩
  case memo =>
    intro x v hx tv hden
    rw [st.den] at hden
    exact st.rval (memo x v hx tv hden)
  case link =>
    intro x u hx tv hden
    rw [st.den] at hden ⊢
    exact (link x u hx).1 tv hden
  case linkEx =>
    intro x u hx; rw [st.ex u]; exact (link x u hx).2
  case wfF =>
    rw [st.fns]; exact inv.wfF

theorem Inv.resolve {G s} (inv : Inv G s) (fuel : Nat) (t : TId) (v : Val) (tv : TVal)
    (hd : Den G s t tv) (hv : RVal G s v tv) : Inv G (s.resolve fuel t (.ok v)) := by
  refine inv.of_sameStatic (sameStatic_resolve (.ok v) fuel s t) ?_ ?_ ?_
  · intro x v' hx tv' hden
    rcases C13.resolve_value (.ok v) fuel s t x with h | ⟨⟨k, hk⟩, h⟩
    · rw [h] at hx; exact inv.memo x v' hx tv' hden
    · -- a cell on the requestor chain of `t`: its by-name value is that of `t`
      rw [h] at hx; cases hx
      rw [BN.deterministic hden (inv.link_hop k hk hd)]; exact hv
  · intro x e hx
    rcases C13.resolve_value (.ok v) fuel s t x with h | ⟨_, h⟩
    · rw [h] at hx; exact inv.noErr x e hx
    · rw [h] at hx; cases hx
  · intro x u hx
    rw [requestor_resolve] at hx
    exact ⟨inv.link x u hx, inv.linkEx x u hx⟩

theorem Inv.setRequestor {G s} (inv : Inv G s) (t' t : TId) (hl : ∀ tv, Den G s t' tv → Den G s t tv)
    (hte : (s.cells.get? t).isSome) : Inv G (setRequestor s t' (some t)) := by
  refine inv.of_sameStatic (sameStatic_setRequestor s t' (some t)) ?_ ?_ ?_
  · intro x v hx; rw [value_setRequestor] at hx; exact inv.memo x v hx
  · intro x e hx; rw [value_setRequestor] at hx; exact inv.noErr x e hx
  · intro x u hx
    rw [requestor_setRequestor] at hx
    split at hx
    next hnew => cases hx; rw [hnew.1]; exact ⟨hl, hte⟩
    next => exact ⟨inv.link x u hx, inv.linkEx x u hx⟩

theorem ext_alloc {G : Ghost} {s : Store} (hw : HeapWF s.cells) (e : AST) (env : Env) (ρ : TEnv) :
    Ext G s (G.setCell s.cells.size ρ) (alloc s e env) := by
  refine ⟨fun t ht => ?_, fun f o hf => ⟨hf, rfl⟩⟩
  have hlt := hw t ht
  have hne : t ≠ s.cells.size := by omega
  rw [getCell_alloc_old s e env t hne]
  exact ⟨Heap.isSome_get?_push_iff.2 (.inr ht), rfl, rfl, by simp [Ghost.setCell, hne]⟩

/-- every cell of the new store is an old one, unchanged, or a fresh one; likewise every function object -/
theorem Inv.of_ext {G s G' s'} (inv : Inv G s) (ex : Ext G s G' s')
    (cells : ∀ t, (s'.cells.get? t).isSome → ((s.cells.get? t).isSome ∧ s'.getCell t = s.getCell t) ∨
      ((s'.getCell t).value = none ∧ (s'.getCell t).requestor = none ∧
        G'.cellEnv t = trEnv G s (s'.getCell t).env ∧ Scoped s (s'.getCell t).env))
    (fns : ∀ f b cenv, s'.fns.get? f = some (.closure b cenv) → s.fns.get? f = some (.closure b cenv) ∨
      ∃ funs', cenv.funs = funs' ++ [f] ∧ G'.fnClo f = (b, trEnv G s ⟨funs', cenv.args⟩) ∧ Scoped s ⟨funs', cenv.args⟩)
    (wf : HeapWF s'.cells) (wfF : HeapWF s'.fns) : Inv G' s' := by
  refine { cellEnv := ?cellEnv, cellScoped := ?cellScoped, fnClo := ?fnClo, memo := ?memo, noErr := ?noErr, link := ?link,
           linkEx := ?linkEx, wf := wf, wfF := wfF }
  case cellEnv =>
    intro x hx
    rcases cells x hx with ⟨hold, he⟩ | ⟨_, _, hg, hsc⟩
    · rw [he, (ex.cells x hold).2.2.2, inv.cellEnv x hold]; exact (trEnv_ext (inv.cellScoped x hold) ex).symm
    · rw [hg]; exact (trEnv_ext hsc ex).symm
  case cellScoped =>
    intro x hx
    rcases cells x hx with ⟨hold, he⟩ | ⟨_, _, _, hsc⟩
    · rw [he]; exact (inv.cellScoped x hold).ext ex
    · exact hsc.ext ex
  case fnClo =>
    intro f b cenv hf
    rcases fns f b cenv hf with hf' | ⟨funs', h1, h2, h3⟩
    · obtain ⟨funs', h1, h2, h3⟩ := inv.fnClo f b cenv hf'
      exact ⟨funs', h1, by rw [(ex.fns f _ hf').2, h2, trEnv_ext h3 ex], h3.ext ex⟩
    · exact ⟨funs', h1, by rw [h2, trEnv_ext h3 ex], h3.ext ex⟩
  case memo =>
    intro x v hx tv hden
    rcases cells x (isSome_of_value hx) with ⟨hold, he⟩ | ⟨hn, _⟩
    · rw [he] at hx; rw [Den.ext ex hold] at hden; exact (inv.memo x v hx tv hden).ext ex
    · rw [hn] at hx; cases hx
  case noErr =>
    intro x e hx
    rcases cells x (isSome_of_value hx) with ⟨hold, he⟩ | ⟨hn, _⟩
    · rw [he] at hx; exact inv.noErr x e hx
    · rw [hn] at hx; cases hx
  case link =>
    intro x u hx tv hden
    rcases cells x (isSome_of_requestor hx) with ⟨hold, he⟩ | ⟨_, hn, _⟩
    · rw [he] at hx; rw [Den.ext ex hold] at hden
      exact (Den.ext ex (inv.linkEx x u hx)).2 (inv.link x u hx tv hden)
    · rw [hn] at hx; cases hx
  case linkEx =>
    intro x u hx
    rcases cells x (isSome_of_requestor hx) with ⟨hold, he⟩ | ⟨_, hn, _⟩
    · rw [he] at hx; exact (ex.cells u (inv.linkEx x u hx)).1
    · rw [hn] at hx; cases hx

theorem Inv.delay {G s} (inv : Inv G s) (e : AST) {env : Env} (hs : Scoped s env) :
    ∃ G', Inv G' (BigStep.alloc s e env) ∧ Ext G s G' (BigStep.alloc s e env) ∧
      Holds G' (BigStep.alloc s e env) s.cells.size e (trEnv G s env) ∧
      ((BigStep.alloc s e env).getCell s.cells.size).value = none := by
  have ex := ext_alloc (G := G) inv.wf e env (trEnv G s env)
  refine ⟨_, inv.of_ext ex ?_ (fun _ _ _ hf => .inl hf) (inv.wf.push _) inv.wfF, ex,
    ⟨Heap.isSome_get?_push_iff.2 (.inl rfl), by rw [getCell_alloc_new], by simp [Ghost.setCell]⟩, by rw [getCell_alloc_new]⟩
  intro x hx
  rcases Heap.isSome_get?_push_iff.1 hx with rfl | hold
  · rw [getCell_alloc_new]; exact .inr ⟨rfl, rfl, by simp [Ghost.setCell], hs⟩
  · exact .inl ⟨hold, getCell_alloc_old s e env x (Nat.ne_of_lt (inv.wf x hold))⟩

theorem ext_pushFn {G : Ghost} {s : Store} (hw : HeapWF s.fns) (o : FnObj) (c : AST × TEnv) :
    Ext G s (G.setFn s.fns.size c) { s with fns := s.fns.push o } := by
  refine ⟨fun t ht => ⟨ht, rfl, rfl, rfl⟩, fun f o' hf => ?_⟩
  have hlt := hw f (by rw [hf]; rfl)
  have hne : f ≠ s.fns.size := by omega
  refine ⟨?_, ?_⟩
  · simp only [Heap.get?_push, hne.symm, if_false]; exact hf
  · simp [Ghost.setFn, hne]

theorem Inv.newFn {G s} (inv : Inv G s) (b : AST) (env : Env) (hs : Scoped s env) :
    Inv (G.setFn s.fns.size (b, trEnv G s env))
      { s with fns := s.fns.push (.closure b ⟨env.funs ++ [s.fns.size], env.args⟩) } := by
  refine inv.of_ext (ext_pushFn inv.wfF _ _) (fun _ hx => .inl ⟨hx, rfl⟩) ?_ inv.wf (inv.wfF.push _)
  intro f b' cenv hf
  simp only [Heap.get?_push] at hf
  by_cases hfs : s.fns.size = f
  · subst hfs
    simp only [if_true, Option.some.injEq, FnObj.closure.injEq] at hf
    obtain ⟨rfl, rfl⟩ := hf
    exact .inr ⟨env.funs, rfl, by simp [Ghost.setFn], hs⟩
  · simp only [hfs, if_false] at hf; exact .inl hf

theorem allocArgs_spec {env : Env} (args : List AST) {G : Ghost} {s : Store} (inv : Inv G s) (hs : Scoped s env) :
    ∃ G', Inv G' (allocArgs s env args).1 ∧ Ext G s G' (allocArgs s env args).1 ∧
      (allocArgs s env args).2.map (trArg G' (allocArgs s env args).1) = args.map (fun a => (a, trEnv G s env)) ∧
      Delayed (allocArgs s env args).1 (allocArgs s env args).2 ∧
      ∀ i a, args[i]? = some a → Holds G' (allocArgs s env args).1 (s.cells.size + i) a (trEnv G s env) := by
  induction args generalizing G s with
  | nil => exact ⟨G, inv, Ext.refl G s, rfl, (fun a ha => nomatch ha), (fun i a h => nomatch h)⟩
  | cons e es ih =>
    obtain ⟨G1, inv1, ex1, hd1, -⟩ := inv.delay e hs
    obtain ⟨G', inv', ex', hmap, hsc, hcells⟩ := ih inv1 (hs.ext ex1)
    have hd := hd1.ext ex'
    refine ⟨G', inv', ex1.trans ex', ?_, ?_, ?_⟩
    · -- the head is the cell of `e` (`hd`); the tail is `hmap`, whose environment tree was taken one allocation later
      have hhead : trArg G' (allocArgs (alloc s e env) env es).1 (.thunk s.cells.size (tagOf e)) = (e, trEnv G s env) := by
        simp only [trArg, hd.2.1, hd.2.2]
      simp only [allocArgs, List.map_cons, hhead, hmap, trEnv_ext hs ex1]
    · intro a ha
      simp only [allocArgs, List.mem_cons] at ha
      rcases ha with rfl | ha
      · exact ⟨_, _, rfl, hd.1⟩
      · exact hsc a ha
    · intro i a ha
      cases i with
      | zero => cases ha; exact hd
      | succ i =>
        have := hcells i a ha
        rwa [trEnv_ext hs ex1, show (alloc s e env).cells.size + i = s.cells.size + (i + 1) by simp [alloc]; omega] at this

def Adequate (tv : TVal) (G : Ghost) (s : Store) (w : World) (t : TId) : Prop :=
  ∃ (G' : Ghost) (s' : Store) (v : Val) (h : Nat),
    Eval s w (.frame t) h (.ok (.arg (.strict v))) s' w ∧ Inv G' s' ∧ Ext G s G' s' ∧ RVal G' s' v tv

/-- the form the induction hypotheses of `adequacy_at` have -/
abbrev AdequateAt (w : World) (ρ : TEnv) (e : AST) (tv : TVal) : Prop :=
  ∀ {G : Ghost} {s : Store} {t : TId}, Inv G s → Holds G s t e ρ → (s.getCell t).value = none → Adequate tv G s w t

/-- a frame that ends with its own value: the frame writes it into `t` and its requestors, which keeps the invariant -/
theorem adequate_frameVal {G s w t tv G1 s1 v h} (hex : (s.cells.get? t).isSome) (hd : Den G s t tv)
    (ev : Eval s w (.comp (newFrame s t).cur) h (.ok (.arg (.strict v))) s1 w)
    (inv1 : Inv G1 s1) (ex : Ext G s G1 s1) (rv : RVal G1 s1 v tv) : Adequate tv G s w t :=
  have st := sameStatic_resolve (.ok v) (s1.cells.size + 1) s1 t
  ⟨G1, _, v, h + 1, Eval.frameVal ev, inv1.resolve _ t _ _ ((Den.ext ex hex).2 hd) rv, ex.trans (st.ext _), st.rval rv⟩

/-- … for a cell not yet evaluated: the coroutine is the interpretation of its expression -/
theorem adequate_value {G s w t e ρ tv G1 s1 v h} (ht : Holds G s t e ρ) (hnone : (s.getCell t).value = none) (hbn : BN ρ e tv)
    (ev : Eval s w (.comp (bodyOf e (s.getCell t).env)) h (.ok (.arg (.strict v))) s1 w)
    (inv1 : Inv G1 s1) (ex : Ext G s G1 s1) (rv : RVal G1 s1 v tv) : Adequate tv G s w t :=
  adequate_frameVal ht.1 ((Den.iff ht.2.1 ht.2.2).2 hbn) (by rw [newFrame_cur_none hnone, ht.2.1]; exact ev) inv1 ex rv

/-- from "adequate when unevaluated" to "adequate in any state of the memo cell": a cell that holds a value hands it on -/
theorem adequate_any {w ρ e tv} (hbn : BN ρ e tv) (ih : AdequateAt w ρ e tv) {G : Ghost} {s : Store} (inv : Inv G s)
    {t : TId} (ht : Holds G s t e ρ) : Adequate tv G s w t := by
  cases hv : (s.getCell t).value with
  | none => exact ih inv ht hv
  | some o =>
    cases o with
    | error e' => exact absurd hv (inv.noErr t e')
    | ok v =>
      have hd := (Den.iff ht.2.1 ht.2.2).2 hbn
      exact adequate_frameVal (h := 0) ht.1 hd (by rw [(C13.newFrame_completed s t _ hv).1]; exact .ret _ _ _ _) inv (Ext.refl G s)
        (inv.memo t v hv tv hd)

theorem forces_any {w ρ e tv} (hbn : BN ρ e tv) (ih : AdequateAt w ρ e tv) {G : Ghost} {s : Store} (inv : Inv G s)
    {t : TId} (ht : Holds G s t e ρ) :
    ∃ (G' : Ghost) (s' : Store) (v : Val) (h0 : Nat), Forces s w t v h0 s' ∧ Inv G' s' ∧ Ext G s G' s' ∧ RVal G' s' v tv := by
  cases hv : (s.getCell t).value with
  | none =>
    obtain ⟨G', s', v, h, ev, inv', ex, rv⟩ := ih inv ht hv
    exact ⟨G', s', v, h, Forces.eval hv ev, inv', ex, rv⟩
  | some o =>
    cases o with
    | error e' => exact absurd hv (inv.noErr t e')
    | ok v => exact ⟨G, s, v, 0, Forces.memo w hv, inv, Ext.refl G s, inv.memo t v hv tv ((Den.iff ht.2.1 ht.2.2).2 hbn)⟩

theorem builtin_name {n : Int} {e : List Digit} (h : encodeNumber n = e) (he : builtinNames.contains e = true) :
    isBuiltinName n = true := by unfold isBuiltinName; rw [h]; exact he

/-- the beginning of every call in the frame of `t`: the function expression `f` and the argument expressions are delayed in
the environment of `t` (in cell `size` and the cells after it) -/
theorem call_prelude {G s t e ρ} (inv : Inv G s) (ht : Holds G s t e ρ) (f : AST) (args : List AST) :
    let r := allocArgs (alloc s f (s.getCell t).env) (s.getCell t).env args
    ∃ Ga, Inv Ga r.1 ∧ Ext G s Ga r.1 ∧ Holds Ga r.1 s.cells.size f ρ ∧ (r.1.getCell s.cells.size).value = none ∧
      r.2.map (trArg Ga r.1) = args.map (fun a => (a, ρ)) ∧ Delayed r.1 r.2 ∧
      ∀ i a, args[i]? = some a → Holds Ga r.1 (s.cells.size + 1 + i) a ρ := by
  intro r
  have hsc := inv.cellScoped t ht.1
  have hρ' := inv.envTree ht.1 ht.2.2
  obtain ⟨G0, inv0, ex0, h0, hn0⟩ := inv.delay f hsc
  obtain ⟨Ga, inva, exa, hmap, hargs, hcells⟩ := allocArgs_spec args inv0 (hsc.ext ex0)
  rw [trEnv_ext hsc ex0, ← hρ'] at hmap hcells
  rw [← hρ'] at h0
  refine ⟨Ga, inva, ex0.trans exa, h0.ext exa, ?_, hmap, hargs, hcells⟩
  rw [allocArgs_getCell _ args _ _ (by simp [alloc])]; exact hn0

/-- a frame that ends with a tail return: the coroutine of `t` has handed over the delayed expression `t'`, whose by-name
values are values of `t`; `t'` remembers `t` as its requestor and is evaluated in its place -/
theorem adequate_tail {G s w t e ρ tv G1 s1 t' lit h e' ρ'} (ht : Holds G s t e ρ) (hnone : (s.getCell t).value = none)
    (ev : Eval s w (.comp (bodyOf e (s.getCell t).env)) h (.ok (.arg (.thunk t' lit))) s1 w)
    (inv1 : Inv G1 s1) (ex : Ext G s G1 s1) (ht' : Holds G1 s1 t' e' ρ')
    (hlink : ∀ tv', BN ρ' e' tv' → BN ρ e tv') (hbn : BN ρ' e' tv) (ih : AdequateAt w ρ' e' tv) : Adequate tv G s w t := by
  obtain ⟨hex, he, hρ⟩ := ht
  obtain ⟨hex', he', hρ'⟩ := ht'
  have hl : ∀ tv', Den G1 s1 t' tv' → Den G1 s1 t tv' := fun tv' hd =>
    (Den.ext ex hex).2 ((Den.iff he hρ).2 (hlink tv' ((Den.iff he' hρ').1 hd)))
  have inv1' := inv1.setRequestor t' t hl (ex.cells t hex).1
  have st := sameStatic_setRequestor s1 t' (some t)
  obtain ⟨G2, s2, v2, h2, ev2, inv2, ex2, rv2⟩ :=
    adequate_any hbn ih inv1' (t := t') ⟨by rw [st.ex]; exact hex', by rw [st.expr]; exact he', hρ'⟩
  refine ⟨G2, s2, v2, max h h2 + 1, ?_, inv2, ex.trans ((st.ext G1).trans ex2), rv2⟩
  refine Eval.frameTail (t' := t') (lit := lit) ?_ (ev2.mono _ (by omega))
  rw [newFrame_cur_none hnone, he]
  exact ev.mono _ (Nat.le_max_left _ _)

theorem demand_int {w ρ e x} (hbn : BN ρ e (.int x)) (ih : AdequateAt w ρ e (.int x)) {G0 : Ghost} {s0 : Store}
    {t : TId} (h0 : Holds G0 s0 t e ρ) :
    Demand (fun s => ∃ G, Inv G s ∧ Ext G0 s0 G s) w t (.int x) := by
  intro s ⟨G, inv, ex⟩
  obtain ⟨G', s', v, h, f, inv', ex', rv⟩ := forces_any hbn ih inv (h0.ext ex)
  cases rv
  exact ⟨h, s', f, G', inv', ex.trans ex'⟩

/-- a strict binary built-in on two integers: one proof for ㄴ ㄷ ㄱ ㅈ ㄴㅁ -/
theorem adequate_int2 {w ρ n spf a1 a2 sp x y} {b : Builtin} {v : Val} {tv : TVal}
    (hbn : BN ρ (.call (.lit n spf) [a1, a2] sp) tv) (hname : isBuiltinName n = true) (hb : builtinOf n = some b)
    (rule : Strict2 b x y v) (rv : ∀ G s, RVal G s v tv)
    (hb1 : BN ρ a1 (.int x)) (hb2 : BN ρ a2 (.int y)) (ih1 : AdequateAt w ρ a1 (.int x)) (ih2 : AdequateAt w ρ a2 (.int y)) :
    AdequateAt w ρ (.call (.lit n spf) [a1, a2] sp) tv := by
  intro G s t inv ht hnone
  obtain ⟨Ga, inva, exa, -, -, -, -, hcells⟩ := call_prelude inv ht (.lit n spf) [a1, a2]
  have c1 : Holds Ga _ (s.cells.size + 1) a1 ρ := hcells 0 a1 rfl
  have c2 : Holds Ga _ (s.cells.size + 2) a2 ρ := hcells 1 a2 rfl
  obtain ⟨k, s2, ev, G2, inv2, ex2⟩ := rule _ w sp _ _ (tagOf a1) (tagOf a2) (demand_int hb1 ih1 c1) (demand_int hb2 ih2 c2)
    _ ⟨Ga, inva, Ext.refl _ _⟩
  have hcomp := rule_call_builtin s w k n spf [a1, a2] sp _ b hname hb (by simpa only [allocArgs, alloc, Heap.size_push] using ev)
  exact adequate_value ht hnone hbn hcomp inv2 (exa.trans ex2) (rv _ _)

theorem adequacy_at {ρ e tv} (hbn : BN ρ e tv) (w : World) {G : Ghost} {s : Store} {t : TId} (inv : Inv G s)
    (ht : Holds G s t e ρ) (hnone : (s.getCell t).value = none) : Adequate tv G s w t := by
  induction hbn generalizing G s t with
  | @lit ρ n sp =>
    exact adequate_value ht hnone .lit (rule_lit s w 0 n sp _) inv (Ext.refl G s) (.int n)
  | @funDef ρ b sp =>
    have hρ' := inv.envTree ht.1 ht.2.2
    refine adequate_value ht hnone .funDef (rule_funDef s w 0 b sp _) (inv.newFn b _ (inv.cellScoped t ht.1))
      (ext_pushFn inv.wfF _ _) (RVal.fn (cenv := ⟨(s.getCell t).env.funs ++ [s.fns.size], (s.getCell t).env.args⟩) ?_ ?_)
    · simp [Heap.get?_push]
    · simp [Ghost.setFn, hρ']
  | @funRef ρ rel sp b ρ' hidx =>
    have hidx' := hidx
    rw [← ht.2.2, inv.cellEnv t ht.1] at hidx'
    obtain ⟨f, hf, hclo⟩ := pyIndex_map_eq_some hidx'
    obtain ⟨b', cenv, hget⟩ := (inv.cellScoped t ht.1).funs f (pyIndex_mem hf)
    obtain ⟨funs', _, hclo', _⟩ := inv.fnClo f b' cenv hget
    obtain rfl : b' = b := by rw [hclo'] at hclo; exact (Prod.mk.inj hclo).1
    exact adequate_value ht hnone (.funRef hidx) (rule_funRef s w 0 rel sp _ f hf) inv (Ext.refl G s) (.fn hget hclo)
  | @argRef ρ a relF sp frame i e' ρ' v hfr hpos hi hx hv ih1 ih2 =>
    let env := (s.getCell t).env
    have hsc := inv.cellScoped t ht.1
    have hρ' : ρ = trEnv G s env := inv.envTree ht.1 ht.2.2
    have hfr' := hfr
    rw [hρ'] at hfr'
    obtain ⟨fr, hfe, rfl⟩ := pyIndex_map_eq_some hfr'
    -- the position expression, delayed in the referring environment
    obtain ⟨G1, inv1, ex1, hc, cn⟩ := inv.delay a hsc
    rw [← hρ'] at hc
    obtain ⟨G2, s2, v2, h1, ev1, inv2, ex12, rv2⟩ := ih1 inv1 hc cn
    cases rv2
    have hx' := hx
    rw [List.getElem?_map] at hx'
    obtain ⟨x, hxe, hx'⟩ := Option.map_eq_some_iff.1 hx'
    obtain ⟨t', lit, rfl, ht'⟩ := hsc.args fr (pyIndex_mem hfe) x (List.mem_of_getElem? hxe)
    simp only [trArg, Prod.mk.injEq] at hx'
    have ex02 := ex1.trans ex12
    have hc : Holds G2 s2 t' e' ρ' := Holds.ext ⟨ht', hx'.1, hx'.2⟩ ex02
    have hi' : 0 ≤ i ∧ i < (fr.length : Int) := by rw [List.length_map] at hi; exact hi
    exact adequate_tail ht hnone (rule_argRef s w h1 a relF sp env fr i (.thunk t' lit) s2 w hfe ev1 hi' hxe)
      inv2 ex02 hc (fun _ hd => .argRef hfr hpos hi hx hd) hv ih2
  | @call ρ f args sp b ρd v hf hcallee hbody ih1 ih2 =>
    obtain ⟨Ga, inva, exa, hc, hn, hmap, hargs, -⟩ := call_prelude inv ht f args
    obtain ⟨G2, s2, v2, h1, ev1, inv2, ex12, rv2⟩ := ih1 inva hc hn
    cases rv2 with
    | @fn fid _ _ cenv hget hclo =>
      obtain ⟨funs', hfuns, hclo', hsc'⟩ := inv2.fnClo fid b cenv hget
      have hρd : ρd = trEnv G2 s2 ⟨funs', cenv.args⟩ := by rw [hclo] at hclo'; exact (Prod.mk.inj hclo').2
      let argv := (allocArgs (alloc s f (s.getCell t).env) (s.getCell t).env args).2
      -- the body, delayed in the captured environment extended by the arguments
      have hscb : Scoped s2 ⟨cenv.funs, cenv.args ++ [argv]⟩ := by
        refine ⟨fun g hg => ?_, fun fr hfr => ?_⟩
        · simp only [hfuns, List.mem_append, List.mem_singleton] at hg
          rcases hg with hg | rfl
          · exact hsc'.funs g hg
          · exact ⟨b, cenv, hget⟩
        · simp only [List.mem_append, List.mem_singleton] at hfr
          rcases hfr with hfr | rfl
          · exact hsc'.args fr hfr
          · exact hargs.ext ex12
      have henvb : trEnv G2 s2 ⟨cenv.funs, cenv.args ++ [argv]⟩ =
          .mk (ρd.funs ++ [(b, ρd)]) (ρd.args ++ [args.map (fun a => (a, ρ))]) := by
        have hargv : argv.map (trArg G2 s2) = args.map (fun a => (a, ρ)) := (map_trArg_ext ex12 hargs).trans hmap
        have e1 : ρd.funs = funs'.map G2.fnClo := by rw [hρd]; rfl
        have e2 : ρd.args = cenv.args.map (fun fr => fr.map (trArg G2 s2)) := by rw [hρd]; rfl
        simp only [trEnv, hfuns, List.map_append, List.map_cons, List.map_nil, hclo, hargv, e1, e2]
      obtain ⟨G3, inv3, ex23, hb3, -⟩ := inv2.delay b hscb
      rw [henvb] at hb3
      exact adequate_tail ht hnone (rule_call_closure s w h1 f args sp _ fid b cenv s2 w hf ev1 hget)
        inv3 ((exa.trans ex12).trans ex23) hb3 (fun _ hd => .call hf hcallee hd) hbody ih2
  | @ctrue ρ n spf sp hn =>
    obtain ⟨Ga, inva, exa, -⟩ := call_prelude inv ht (.lit n spf) []
    exact adequate_value ht hnone (.ctrue hn)
      (rule_call_builtin s w 0 n spf [] sp _ bTrue (builtin_name hn (by decide)) (by simp [builtinOf, hn]) (eval_true _ _ _ _))
      inva exa (.bool true)
  | @cfalse ρ n spf sp hn =>
    obtain ⟨Ga, inva, exa, -⟩ := call_prelude inv ht (.lit n spf) []
    exact adequate_value ht hnone (.cfalse hn)
      (rule_call_builtin s w 0 n spf [] sp _ bFalse (builtin_name hn (by decide)) (by simp [builtinOf, hn]) (eval_false _ _ _ _))
      inva exa (.bool false)
  | @sel ρ f x y sp b v hf hcallee hsel ih1 ih2 =>
    obtain ⟨Ga, inva, exa, hc, hn, -, -, hcells⟩ := call_prelude inv ht f [x, y]
    obtain ⟨G2, s2, v2, h1, ev1, inv2, ex12, rv2⟩ := ih1 inva hc hn
    cases rv2
    have hcomp := rule_call_bool s w h1 f x y sp _ b s2 w hf ev1
    have hx : Holds G2 s2 (s.cells.size + 1) x ρ := (hcells 0 x rfl).ext ex12
    have hy : Holds G2 s2 (s.cells.size + 2) y ρ := (hcells 1 y rfl).ext ex12
    cases b with
    | true => exact adequate_tail ht hnone hcomp inv2 (exa.trans ex12) hx (fun _ h' => .sel hf hcallee h') hsel ih2
    | false => exact adequate_tail ht hnone hcomp inv2 (exa.trans ex12) hy (fun _ h' => .sel hf hcallee h') hsel ih2
  | @mkList ρ n spf args sp hn =>
    obtain ⟨Ga, inva, exa, -, -, hmap, hargs, -⟩ := call_prelude inv ht (.lit n spf) args
    exact adequate_value ht hnone (.mkList hn)
      (rule_call_builtin s w 0 n spf args sp _ bList (builtin_name hn (by decide)) (by simp [builtinOf, hn])
        (by simp only [bList, retV, Comp.bind]; exact .ret _ _ _ _))
      inva exa (.list hmap hargs)
  | @index ρ f a sp elems i e' ρ' v hf hcallee hidxarg hidx hbody ih1 ih2 ih3 =>
    obtain ⟨Ga, inva, exa, hc, hn, -, -, hcells⟩ := call_prelude inv ht f [a]
    obtain ⟨G2, s2, v2, h1, ev1, inv2, ex12, rv2⟩ := ih1 inva hc hn
    cases rv2 with
    | @list xs _ hxs hxsc =>
      have ha : Holds Ga _ (s.cells.size + 1) a ρ := hcells 0 a rfl
      obtain ⟨G3, s3, v3, k3, f3, inv3, ex23, rv3⟩ := forces_any hidxarg ih2 inv2 (ha.ext ex12)
      cases rv3
      -- the selected element: a delayed expression of the store, with the tree the by-name list holds at that position
      have hidx' := hidx
      rw [← hxs] at hidx'
      obtain ⟨x, hp, htr⟩ := pyIndex_map_eq_some hidx'
      obtain ⟨tt, lit, rfl, htt2⟩ := hxsc x (pyIndex_mem hp)
      simp only [trArg, Prod.mk.injEq] at htr
      have hc : Holds G3 s3 tt e' ρ' := Holds.ext ⟨htt2, htr.1, htr.2⟩ ex23
      have hcomp := rule_call_list s w (max h1 k3) f a sp _ xs i (.thunk tt lit) s2 s3 k3 hf
        (ev1.mono _ (Nat.le_max_left _ _)) f3 (Nat.le_max_right _ _) hp
      exact adequate_tail ht hnone hcomp inv3 ((exa.trans ex12).trans ex23) hc
        (fun _ hd => .index hf hcallee hidxarg hidx hd) hbody ih3
  | @lenList ρ n spf a sp elems hn hb1 ih1 =>
    obtain ⟨Ga, inva, exa, -, -, -, -, hcells⟩ := call_prelude inv ht (.lit n spf) [a]
    have ha : Holds Ga _ (s.cells.size + 1) a ρ := hcells 0 a rfl
    obtain ⟨G1, s1, v1, k1, f1, inv1, ex1, rv1⟩ := forces_any hb1 ih1 inva ha
    cases rv1 with
    | @list xs _ hxs hxsc =>
      have hcomp : Eval s w (.comp (bodyOf (.call (.lit n spf) [a] sp) (s.getCell t).env)) k1
          (.ok (.arg (.strict (.int xs.length)))) s1 w := by
        refine rule_call_builtin s w _ n spf [a] sp _ bLen (builtin_name hn (by decide)) (by simp [builtinOf, hn]) ?_
        simp only [allocArgs, alloc, Heap.size_push]
        exact eval_len_list f1 _ (Nat.le_refl _)
      rw [show xs.length = elems.length by rw [← hxs, List.length_map]] at hcomp
      exact adequate_value ht hnone (.lenList hn hb1) hcomp inv1 (exa.trans ex1) (.int _)
  | eqInt hn hb1 hb2 ih1 ih2 =>
    exact adequate_int2 (.eqInt hn hb1 hb2) (builtin_name hn (by decide)) (by simp [builtinOf, hn]) (strict2_equals _ _)
      (fun _ _ => .bool _) hb1 hb2 ih1 ih2 inv ht hnone
  | addInt hn hb1 hb2 ih1 ih2 =>
    exact adequate_int2 (.addInt hn hb1 hb2) (builtin_name hn (by decide)) (by simp [builtinOf, hn]) (strict2_add _ _)
      (fun _ _ => .int _) hb1 hb2 ih1 ih2 inv ht hnone
  | mulInt hn hb1 hb2 ih1 ih2 =>
    exact adequate_int2 (.mulInt hn hb1 hb2) (builtin_name hn (by decide)) (by simp [builtinOf, hn]) (strict2_mul _ _)
      (fun _ _ => .int _) hb1 hb2 ih1 ih2 inv ht hnone
  | ltInt hn hb1 hb2 ih1 ih2 =>
    exact adequate_int2 (.ltInt hn hb1 hb2) (builtin_name hn (by decide)) (by simp [builtinOf, hn]) (strict2_lt _ _)
      (fun _ _ => .bool _) hb1 hb2 ih1 ih2 inv ht hnone
  | remInt hn hb1 hb2 hy ih1 ih2 =>
    exact adequate_int2 (.remInt hn hb1 hb2 hy) (builtin_name hn (by decide)) (by simp [builtinOf, hn]) (strict2_rem _ hy)
      (fun _ _ => .int _) hb1 hb2 ih1 ih2 inv ht hnone

/-- adequacy of call by need for call by name: if the memo-free tree semantics assigns the value `tv` to the
expression delayed in cell `t`, the evaluator's big-step semantics evaluates `t` to a value related to `tv`
(the same integer or Boolean / the closure of the same body and environment / the list of the same delayed expressions),
keeping the invariant -/
theorem adequacy {ρ e tv} (hbn : BN ρ e tv) : ∀ (G : Ghost) (s : Store) (w : World) (t : TId),
    Inv G s → (s.cells.get? t).isSome → (s.getCell t).expr = e → G.cellEnv t = ρ → (s.getCell t).value = none →
    Adequate tv G s w t :=
  fun _ _ w _ inv hex he hρ hnone => adequacy_at hbn w inv ⟨hex, he, hρ⟩ hnone

/-- no cells, and no user-defined function objects -/
theorem inv_init : Inv ghost0 initStore := by
  have hc : ∀ t, initStore.cells.get? t = none := by intro t; simp [initStore, Heap.empty, Heap.get?]
  have hd : ∀ t, initStore.getCell t = default := fun t => getCell_of_none (hc t)
  have hbmod : ∀ f b cenv, initStore.fns.get? f ≠ some (.closure b cenv) := by
    intro f b cenv hf
    obtain ⟨_, _, h⟩ := List.mem_map.1 (Heap.mem_of_get?_ofList hf)
    cases h
  exact {
    cellEnv := fun t ht => by rw [hc t] at ht; cases ht
    cellScoped := fun t ht => by rw [hc t] at ht; cases ht
    fnClo := fun f b cenv hf => absurd hf (hbmod f b cenv)
    memo := fun t v hv => by rw [hd t] at hv; cases hv
    noErr := fun t e hv => by rw [hd t] at hv; cases hv
    link := fun t u hr => by rw [hd t] at hr; cases hr
    linkEx := fun t u hr => by rw [hd t] at hr; cases hr
    wf := HeapWF.empty
    wfF := HeapWF.ofList _ }

theorem adequacy_anywhere {G : Ghost} {s : Store} (inv : Inv G s) {e : AST} {n : Int} (w : World)
    (hbn : BN (.mk [] []) e (.int n)) :
    ∃ (h : Nat) (G' : Ghost) (s' : Store),
      Eval (alloc s e ⟨[], []⟩) w (.frame s.cells.size) h (.ok (.arg (.strict (.int n)))) s' w ∧ Inv G' s' := by
  obtain ⟨G1, inv1, -, hc, cn⟩ := inv.delay e (env := ⟨[], []⟩) ⟨nofun, nofun⟩
  obtain ⟨G', s', v, h, ev, inv', _, rv⟩ := adequacy_at hbn w inv1 hc cn
  cases rv
  exact ⟨h, G', s', ev, inv'⟩

end UH.ByName
