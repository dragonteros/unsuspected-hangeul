/-
For the monad laws of the I/O actions (C07; stated and proved in UH/Properties/NatSemIO.lean from `exec_bind_cc`).

`ㄱㅅ v` (return) and `m ㄱㄹ f` (bind) are values; executing them is what `main.do_IO` does.  The laws say what executing
the composed action does in terms of executing its parts; with `Eval.deterministic` that is an equality of outcomes.
Here is what right identity needs: `recursive_strict` finds nothing to evaluate in a completely evaluated value
(`evalTo_recStrict_deep`), so applying ㄱㅅ to one gives the action that returns it (`eval_apply_return_deep`).  Beside it,
the propagation of a failure through a bind without handler (`exec_bind_bind_raises`).
-/
import UH.Proofs.NatSemIO
namespace UH.BigStep
open UH Comp

/-- values without components: `recursive_strict` has nothing to descend into -/
def isAtom : Val → Bool
  | .list _ => false
  | .dict _ => false
  | .err _ _ => false
  | _ => true

theorem evalTo_recStrict_atom (s : Store) (w : World) (h : Nat) (v : Val) (hv : isAtom v = true) :
    EvalTo s w (recStrict (.strict v)) h (.strict v) s w := by
  intro k r s' w' hk
  cases v with
  | list | dict | err => cases hv
  | _ => simpa only [recStrict, forceArg, retV, Bind.bind, Comp.bind] using hk

theorem evalTo_mapM'_id {α : Type} {s : Store} {w : World} {h : Nat} {f : α → Comp α} (as : List α)
    (hall : ∀ a ∈ as, EvalTo s w (f a) h a s w) : EvalTo s w (mapM' f as) h as s w := by
  induction as with
  | nil => exact EvalTo.ret _ _ _ _
  | cons a as ih =>
    simp only [mapM', Bind.bind, pure]
    exact (hall a (by simp)).bind ((ih fun b hb => hall b (by simp [hb])).bind (EvalTo.ret _ _ _ _))

/-- completely evaluated values of nesting depth ≤ n: values without components, and lists of such values -/
def DeepN : Nat → Val → Prop
  | 0, v => isAtom v = true
  | n + 1, v => isAtom v = true ∨ ∃ xs : List Val, v = .list (xs.map Arg.strict) ∧ ∀ x ∈ xs, DeepN n x

theorem evalTo_recStrict_deep (s : Store) (w : World) (h : Nat) :
    ∀ (n : Nat) (v : Val), DeepN n v → EvalTo s w (recStrict (.strict v)) h (.strict v) s w := by
  intro n
  induction n with
  | zero => intro v hv; exact evalTo_recStrict_atom s w h v hv
  | succ n ih =>
    intro v hv
    rcases hv with hv | ⟨xs, rfl, hall⟩
    · exact evalTo_recStrict_atom s w h v hv
    · have hmap : EvalTo s w (mapM' (fun x => callArg (.recStrict x)) (xs.map Arg.strict)) h (xs.map Arg.strict) s w := by
        refine evalTo_mapM'_id _ fun a ha => ?_
        simp only [List.mem_map] at ha
        obtain ⟨x, hx, rfl⟩ := ha
        exact EvalTo.callArg ((ih x (hall x hx)).toEval Res.arg)
      exact hmap.bind (f := fun zs => retV (.list zs)) (EvalTo.ret _ _ _ _)

theorem eval_apply_return_deep (s : Store) (w : World) (h : Nat) (sp : Span) (n : Int) (d : Nat) (v : Val)
    (hb : builtinOf n = some bReturn) (hv : DeepN d v) :
    Eval s w (.comp (expand (.apply (.builtin n) sp [.strict v]))) h
      (.ok (.arg (.strict (.io .ret [.strict v] sp none)))) s w := by
  simp only [expand, applyCallee, hb, bReturn, checkArity, mapM', callArg, List.length_cons, List.length_nil,
    List.contains_cons, List.contains_nil, Bind.bind, Comp.bind, pure]
  refine .callOk (x := .arg (.strict v)) (s1 := s) (w1 := w) ?_ ?_
  · exact (evalTo_recStrict_deep s w h d v hv).toEval Res.arg
  · simp only [Comp.bind, retV]
    exact .ret _ _ _ _

/-- when executing the first action of a bind without handler raises, the exception propagates: the continuation is not
applied — so a failure in the inner bind of `(m ㄱㄹ f) ㄱㄹ g` skips `g` -/
theorem exec_bind_bind_raises {s w h argv sp inner g e s1 w1}
    (h1 : Eval s w (.comp (expand (.doIO inner))) h (.error e) s1 w1) :
    Raises s w (doIO (.io .bind argv sp (some (inner, g, none)))) h e s1 w1 := by
  intro k
  simp only [doIO, ioCont, Bind.bind, Comp.bind]
  exact .callErr h1 (.throw _ _ _ _)

end UH.BigStep
