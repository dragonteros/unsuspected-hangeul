/-
Invariants of the trampolined evaluator `step` (generic in the coroutines): stack height, debugger bookkeeping, event log
nesting — each a corollary of `step_kind`: as far as stack and observer are concerned a step is one of four kinds (`StepKind`).
-/
import UH.Proofs.Step
namespace UH
open Unforced (active)

theorem afterEvents_depth (failed : Bool) (l : List TId) (depth : Nat) (log : List Event) :
    (afterEvents failed depth l log).1 = depth - l.length := by
  induction l generalizing depth log with
  | nil => simp [afterEvents]
  | cons t rest ih => simp only [afterEvents, ih, List.length_cons]; omega

def sumLens (l : List (List TId)) : Nat := (l.map List.length).sum

@[simp] theorem sumLens_nil : sumLens [] = 0 := rfl
@[simp] theorem sumLens_cons (a : List TId) (l) : sumLens (a :: l) = a.length + sumLens l := by
  simp [sumLens]

/-- bookkeeping invariant of `evaluate`: `depth = Σ |debug_stack[i]|`, and `debug_stack`
has one entry per stack frame -/
structure DepthInv (m : MState) : Prop where
  depth_eq : m.depth = sumLens m.dstack
  len_eq : m.dstack.length = m.tail.length

theorem DepthInv.dstack_cons {m : MState} (h : DepthInv m) {f : Frame} {rest : List Frame} (h0 : m.tail = f :: rest) :
    ∃ l ls, m.dstack = l :: ls :=
  List.exists_cons_of_length_eq_add_one (by rw [h.len_eq, h0]; rfl)

theorem finishFrame_inv (m : MState) (f : Frame) (rest : List Frame) (r : Outcome)
    (h : DepthInv m) (ht : m.tail = f :: rest) : DepthInv (finishFrame m f rest r) := by
  obtain ⟨l, ls, hds⟩ := h.dstack_cons ht
  have hl := h.len_eq
  rw [hds, ht] at hl
  constructor
  · simp only [finishFrame, hds, List.head?_cons, Option.getD_some, List.drop_one, List.tail_cons]
    rw [afterEvents_depth, h.depth_eq, hds]
    simp
  · simp only [finishFrame, hds, List.drop_one, List.tail_cons]
    simpa using hl

/-- the four kinds of transition, as far as the stack and the observer are concerned -/
inductive StepKind (m m' : MState) : Prop where
  /-- nothing the observer can see; only the head coroutine ends the run -/
  | stay (hd : m'.depth = m.depth) (hs : m'.dstack = m.dstack) (he : m'.events = m.events)
      (ht : m'.tail.length = m.tail.length) (hst : m'.starts = m.starts)
      (hnl : m'.status ≠ .limit) (hdone : ∀ r, m'.status = .done r → m.tail = [])
  | push (t : TId) (hd : m'.depth = m.depth + 1) (hs : m'.dstack = [t] :: m.dstack)
      (he : m'.events = Event.before (m.depth + 1) t :: m.events)
      (ht : m'.tail.length = m.tail.length + 1)
      (hlim : m'.status = .limit ∨ (m'.status = m.status ∧ m'.tail.length < maxStackSize))
      (hfresh : (m.store.getCell t).value = none) (hst : m'.starts = t :: m.starts)
  /-- a tail return: the top frame is replaced -/
  | replace (t : TId) (f : Frame) (rest : List Frame) (h0 : m.tail = f :: rest)
      (hd : m'.depth = m.depth + 1)
      (hs : m'.dstack = match m.dstack with | l :: ls => (t :: l) :: ls | [] => [[t]])
      (he : m'.events = Event.before (m.depth + 1) t :: m.events)
      (ht : m'.tail.length = m.tail.length) (hst : m'.status = m.status)
      (hstarts : m'.starts = m.starts ∨ m'.starts = t :: m.starts ∧ (m.store.getCell t).value = none)
  | pop (f : Frame) (rest : List Frame) (r : Outcome) (h0 : m.tail = f :: rest)
      (hm : m' = finishFrame m f rest r)

theorem step_kind (m : MState) (hrun : m.status = .running) : StepKind m (step m) := by
  obtain ⟨f, rest, b, ha⟩ : ∃ f rest b, active m = (f, rest, b) := ⟨_, _, _, rfl⟩
  rw [step_eq hrun ha]
  cases hr : react m.store m.world m.resp f with
  | cont f' s w =>
    simp only [perform, put_eq]
    exact .stay rfl rfl rfl (put_tail_length ha f') rfl (by simp [hrun]) (by simp [hrun])
  | bottom => apply StepKind.stay <;> simp [perform]
  | unmodelled why => apply StepKind.stay <;> simp [perform]
  | request t =>
    simp only [perform]
    split
    next => exact .push t rfl rfl rfl rfl (.inl rfl) (react_request hr) rfl
    next hfull => exact .push t rfl rfl rfl rfl (.inr ⟨rfl, Nat.lt_of_not_ge hfull⟩) (react_request hr) rfl
  | finish r =>
    cases b with
    | true => exact .stay rfl rfl rfl rfl rfl nofun fun _ _ => (active_head ha).1
    | false =>
      have ht := active_tail ha
      simp only [perform, Bool.false_eq_true, if_false]
      match r with
      | .ok (.arg (.thunk t' _)) =>
        -- tail return; it is logged as a start only if the cell (requestor just set) has no value
        refine .replace t' f rest ht rfl rfl rfl (by simp [tailReplace, ht]) rfl ?_
        simp only [tailReplace]
        split
        next hfresh => exact .inr ⟨rfl, by simpa [value_setRequestor] using hfresh⟩
        next => exact .inl rfl
      | .ok (.arg (.strict v)) => exact .pop f rest (.ok v) ht rfl
      | .error e => exact .pop f rest (.error e) ht rfl
      | .ok (.key _) | .ok (.str _) => apply StepKind.stay <;> simp  -- the status becomes `bottom`

theorem step_depthInv (m : MState) (h : DepthInv m) : DepthInv (step m) := by
  by_cases hrun : m.status = .running
  · match step_kind m hrun with
    | .stay (hd := hd) (hs := hs) (ht := ht) .. => exact ⟨by rw [hd, hs, h.depth_eq], by rw [hs, ht, h.len_eq]⟩
    | .push (hd := hd) (hs := hs) (ht := ht) .. =>
      exact ⟨by rw [hd, hs, h.depth_eq]; simp; omega, by rw [hs, ht]; simp [h.len_eq]⟩
    | .replace (h0 := h0) (hd := hd) (hs := hs) (ht := ht) .. =>
      obtain ⟨l, ls, hds⟩ := h.dstack_cons h0
      rw [hds] at hs
      exact ⟨by rw [hd, hs, h.depth_eq, hds]; simp; omega, by rw [hs, ht, ← h.len_eq, hds]; simp⟩
    | .pop f rest r h0 hm => rw [hm]; exact finishFrame_inv m f rest r h h0
  · rw [step_not_running m hrun]; exact h

theorem step_starts (m : MState) : (step m).starts = m.starts ∨
    ∃ t, (step m).starts = t :: m.starts ∧ (m.store.getCell t).value = none := by
  by_cases hs : m.status = .running
  · match step_kind m hs with
    | .stay (hst := hst) .. => exact .inl hst
    | .push (t := t) (hfresh := hfresh) (hst := hst) .. => exact .inr ⟨t, hst, hfresh⟩
    | .replace (t := t) (hstarts := hstarts) .. => exact hstarts.imp id fun h => ⟨t, h⟩
    | .pop (hm := hm) .. => left; rw [hm]; rfl
  · left; rw [step_not_running m hs]

def HeightInv (m : MState) : Prop := m.status = .running → m.tail.length < maxStackSize

theorem step_heightInv (m : MState) (h : HeightInv m) : HeightInv (step m) := by
  by_cases hrun : m.status = .running
  · have hlt := h hrun
    intro hr'
    match step_kind m hrun with
    | .stay (ht := ht) .. => omega
    | .push (hlim := hlim) .. =>
      rcases hlim with hl | ⟨_, hl⟩
      · rw [hl] at hr'; cases hr'
      · exact hl
    | .replace (ht := ht) .. => omega
    | .pop (rest := rest) (h0 := h0) (hm := hm) .. =>
      rw [hm]; show rest.length < _
      rw [h0] at hlt; simp at hlt; omega
  · rw [step_not_running m hrun]; exact h

theorem runN_inv {P : MState → Prop} (hstep : ∀ m, P m → P (step m)) (n : Nat) (m : MState) (h : P m) :
    P (runN n m) := by
  induction n generalizing m with
  | zero => exact h
  | succ n ih =>
    simp only [runN]
    split
    · exact ih _ (hstep m h)
    · exact h

/-- the observer's bracket stack after one more event; `none` = ill-nested -/
def applyEvent (st : Option (List (Nat × TId))) (e : Event) : Option (List (Nat × TId)) :=
  match st, e with
  | none, _ => none
  | some st, .before d t => if d = st.length + 1 then some ((d, t) :: st) else none
  | some ((d', t') :: r), .after d t _ => if d = d' ∧ t = t' then some r else none
  | some [], .after _ _ _ => none

/-- replay a log stored newest-first: the stack of still-open `before` events, or `none` if ill-nested -/
def replay (log : List Event) : Option (List (Nat × TId)) :=
  log.foldr (fun e acc => applyEvent acc e) (some [])

theorem replay_cons (e : Event) (log : List Event) : replay (e :: log) = applyEvent (replay log) e := rfl

theorem replay_append (a b : List Event) :
    replay (a ++ b) = a.foldr (fun e acc => applyEvent acc e) (replay b) := by
  simp [replay, List.foldr_append]

/-- pair open expressions (innermost first) with their depths `d, d-1, …` -/
def zipDown : Nat → List TId → List (Nat × TId)
  | _, [] => []
  | d, t :: r => (d, t) :: zipDown (d - 1) r

theorem zipDown_length (d : Nat) (l : List TId) : (zipDown d l).length = l.length := by
  induction l generalizing d with
  | nil => rfl
  | cons t r ih => simp [zipDown, ih]

/-- the expressions currently being evaluated, innermost first -/
def openExprs (dstack : List (List TId)) : List TId := dstack.flatten

theorem openExprs_length (ds : List (List TId)) : (openExprs ds).length = sumLens ds :=
  List.length_flatten

/-- the event log is well nested and its open brackets are exactly the pending evaluations -/
def LogInv (m : MState) : Prop := replay m.events = some (zipDown m.depth (openExprs m.dstack))

theorem replay_afterEvents (failed : Bool) (flat w : List TId) (depth : Nat) (log : List Event)
    (hdep : depth = w.length + flat.length) (h : replay log = some (zipDown depth (w ++ flat))) :
    replay (afterEvents failed depth w log).2 = some (zipDown (depth - w.length) flat) := by
  induction w generalizing depth log with
  | nil => simpa [afterEvents] using h
  | cons t r ih =>
    simp only [afterEvents]
    have h1 : replay (Event.after depth t failed :: log) = some (zipDown (depth - 1) (r ++ flat)) := by
      rw [replay_cons, h]
      simp [applyEvent, zipDown]
    rw [ih (depth - 1) _ (by simp at hdep; omega) h1]
    simp only [List.length_cons]
    congr 2; omega

theorem step_logInv (m : MState) (hd : DepthInv m) (h : LogInv m) : LogInv (step m) := by
  by_cases hrun : m.status = .running
  · unfold LogInv at *
    -- a `before` event at the next depth opens one more bracket, whether a frame is pushed or replaced
    have before : ∀ t, replay (Event.before (m.depth + 1) t :: m.events) =
        some (zipDown (m.depth + 1) (t :: openExprs m.dstack)) := by
      intro t
      rw [replay_cons, h]
      simp [applyEvent, zipDown, zipDown_length, openExprs_length, hd.depth_eq]
    match step_kind m hrun with
    | .stay (hd := hdp) (hs := hs) (he := he) .. => rw [he, hdp, hs]; exact h
    | .push (t := t) (hd := hdp) (hs := hs) (he := he) .. => rw [he, hdp, hs]; exact before t
    | .replace (t := t) (h0 := h0) (hd := hdp) (hs := hs) (he := he) .. =>
      obtain ⟨l, ls, hds⟩ := hd.dstack_cons h0
      rw [hds] at hs before
      rw [he, hdp, hs]; exact before t
    | .pop f rest r h0 hm =>
      obtain ⟨l, ls, hds⟩ := hd.dstack_cons h0
      rw [hm]
      simp only [finishFrame, hds, List.head?_cons, Option.getD_some, List.drop_one, List.tail_cons]
      have hdep : m.depth = l.length + (openExprs ls).length := by
        rw [hd.depth_eq, hds, openExprs_length]; simp
      have h' : replay m.events = some (zipDown m.depth (l ++ openExprs ls)) := by
        rw [h, hds]; simp [openExprs]
      rw [replay_afterEvents _ (openExprs ls) l m.depth m.events hdep h', afterEvents_depth]
  · rw [step_not_running m hrun]; exact h

structure MachineInv (m : MState) : Prop where
  depth : DepthInv m
  height : HeightInv m
  log : LogInv m

theorem MachineInv.init (store : Store) (w : World) (c : Comp Res) : MachineInv (initState store w c) :=
  ⟨⟨rfl, rfl⟩, by intro _; simp [initState, maxStackSize], rfl⟩

theorem MachineInv.step (m : MState) (h : MachineInv m) : MachineInv (step m) :=
  ⟨step_depthInv m h.depth, step_heightInv m h.height, step_logInv m h.depth h.log⟩

theorem MachineInv.runN (n : Nat) (m : MState) (h : MachineInv m) : MachineInv (UH.runN n m) :=
  runN_inv MachineInv.step n m h

end UH
