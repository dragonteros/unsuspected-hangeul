/-
The store operations of the evaluator — reading a cell, updating one in place (`setValue`, `setRequestor`,
`resolve`), allocating one — as equations stated once.  A cell that does not exist reads as `default`, before and
after any update; that is why the update equations carry the side condition `(s.cells.get? a).isSome`.
`HeapWF`: every id in use lies below `size`, so an allocation never overwrites.  A world effect (`doWorld`) reads the store
through its function objects and its number of cells only, and allocates at most one function object or one cell
(`doWorld_alloc`).
-/
import UH.Model.EvalF
namespace UH

namespace Heap
variable {α : Type}

theorem isSome_get?_modify (h : Heap α) (i j : Nat) (f : α → α) :
    ((h.modify i f).get? j).isSome = (h.get? j).isSome := by
  rw [get?_modify]; split
  · subst_vars; exact Option.isSome_map
  · rfl

theorem isSome_get?_push_iff {h : Heap α} {j : Nat} {a : α} :
    ((h.push a).get? j).isSome ↔ j = h.size ∨ (h.get? j).isSome := by
  rw [get?_push]; split
  · simp [*]
  · simp [Ne.symm ‹_›]

theorem mem_of_get?_ofList {l : List α} {i : Nat} {o : α} (h : (ofList l).get? i = some o) : o ∈ l := by
  refine List.foldlRecOn l push (motive := fun hp => ∀ i o, hp.get? i = some o → o ∈ l) ?_ ?_ i o h
  · intro i o h; simp [empty, get?] at h
  · intro b ih a ha i o h
    rw [get?_push] at h
    split at h
    · cases h; exact ha
    · exact ih i o h

end Heap

namespace BigStep

/-- ids are allocated consecutively: only ids below `size` are in use -/
def HeapWF {α : Type} (h : Heap α) : Prop := ∀ i, (h.get? i).isSome → i < h.size

theorem HeapWF.empty {α : Type} : HeapWF (Heap.empty : Heap α) := by
  intro i hi
  simp [Heap.empty, Heap.get?] at hi

theorem HeapWF.push {α : Type} {h : Heap α} (hw : HeapWF h) (a : α) : HeapWF (h.push a) := by
  intro i hi
  rw [Heap.size_push]
  rcases Heap.isSome_get?_push_iff.1 hi with rfl | hi
  · omega
  · have := hw i hi
    omega

theorem HeapWF.modify {α : Type} {h : Heap α} (hw : HeapWF h) (i : Nat) (f : α → α) : HeapWF (h.modify i f) :=
  fun j hj => hw j (by rwa [Heap.isSome_get?_modify] at hj)

theorem HeapWF.ofList {α : Type} (l : List α) : HeapWF (Heap.ofList l) :=
  List.foldlRecOn l Heap.push (motive := HeapWF) HeapWF.empty fun _ h a _ => h.push a

end BigStep

theorem Store.getCell_eq (s : Store) (t : TId) : s.getCell t = (s.cells.get? t).getD default :=
  Heap.getD_eq ..

theorem getCell_of_none {s : Store} {t : TId} (h : s.cells.get? t = none) : s.getCell t = default := by
  rw [Store.getCell_eq, h]; rfl

theorem isSome_of_getCell_ne {s : Store} {t : TId} (h : s.getCell t ≠ default) : (s.cells.get? t).isSome := by
  cases hg : s.cells.get? t with
  | none => exact absurd (getCell_of_none hg) h
  | some c => rfl

theorem isSome_of_value {s : Store} {t : TId} {o : Outcome} (h : (s.getCell t).value = some o) :
    (s.cells.get? t).isSome :=
  isSome_of_getCell_ne fun e => by rw [e] at h; cases h

theorem isSome_of_requestor {s : Store} {t u : TId} (h : (s.getCell t).requestor = some u) :
    (s.cells.get? t).isSome :=
  isSome_of_getCell_ne fun e => by rw [e] at h; cases h

theorem getCell_modify (s : Store) (a t : TId) (f : Cell → Cell) :
    ({ s with cells := s.cells.modify a f } : Store).getCell t =
      if t = a ∧ (s.cells.get? a).isSome then f (s.getCell t) else s.getCell t := by
  simp only [Store.getCell_eq, Heap.get?_modify]
  by_cases h : a = t
  · subst h; cases s.cells.get? a <;> simp
  · simp [h, Ne.symm h]

theorem getCell_modify_proj {β : Type} (p : Cell → β) (s : Store) (a t : TId) {f : Cell → Cell}
    (hp : ∀ c, p (f c) = p c) : p (({ s with cells := s.cells.modify a f } : Store).getCell t) = p (s.getCell t) := by
  rw [getCell_modify]; split
  · exact hp _
  · rfl

theorem getCell_push (s : Store) (c : Cell) (t : TId) :
    ({ s with cells := s.cells.push c } : Store).getCell t = if t = s.cells.size then c else s.getCell t := by
  simp only [Store.getCell_eq, Heap.get?_push, eq_comm (a := t)]
  split <;> rfl

theorem value_setValue (s : Store) (a t : TId) (v : Outcome) :
    ((s.setValue a v).getCell t).value =
      if t = a ∧ (s.cells.get? a).isSome then some v else (s.getCell t).value := by
  unfold Store.setValue; rw [getCell_modify]; split <;> rfl

theorem requestor_setValue (s : Store) (a t : TId) (v : Outcome) :
    ((s.setValue a v).getCell t).requestor = (s.getCell t).requestor :=
  getCell_modify_proj (·.requestor) s a t fun _ => rfl

theorem value_setRequestor (s : Store) (a t : TId) (b : Option TId) :
    ((setRequestor s a b).getCell t).value = (s.getCell t).value :=
  getCell_modify_proj (·.value) s a t fun _ => rfl

theorem requestor_setRequestor (s : Store) (a t : TId) (b : Option TId) :
    ((setRequestor s a b).getCell t).requestor =
      if t = a ∧ (s.cells.get? a).isSome then b else (s.getCell t).requestor := by
  unfold setRequestor; rw [getCell_modify]; split <;> rfl

theorem isSome_get?_setValue (s : Store) (a u : TId) (v : Outcome) :
    ((s.setValue a v).cells.get? u).isSome = (s.cells.get? u).isSome := Heap.isSome_get?_modify ..

theorem isSome_get?_setRequestor (s : Store) (a u : TId) (b : Option TId) :
    ((setRequestor s a b).cells.get? u).isSome = (s.cells.get? u).isSome := Heap.isSome_get?_modify ..

/-- `resolve` is a sequence of `setValue`s: what every `setValue` preserves, it preserves -/
theorem Store.resolve_induction {R : Store → Store → Prop} (refl : ∀ s, R s s)
    (trans : ∀ {a b c}, R a b → R b c → R a c) (set : ∀ s a v, R s (s.setValue a v)) (v : Outcome)
    (fuel : Nat) (s : Store) (t : TId) : R s (s.resolve fuel t v) := by
  induction fuel generalizing s t with
  | zero => exact refl s
  | succ fuel ih =>
    simp only [Store.resolve]
    cases (s.getCell t).requestor with
    | none => exact set s t v
    | some r => exact trans (set s t v) (ih _ r)

theorem requestor_resolve (v : Outcome) (fuel : Nat) (s : Store) (t x : TId) :
    ((s.resolve fuel t v).getCell x).requestor = (s.getCell x).requestor :=
  Store.resolve_induction (R := fun s s' => ∀ x, (s'.getCell x).requestor = (s.getCell x).requestor)
    (fun _ _ => rfl) (fun h1 h2 x => (h2 x).trans (h1 x)) (fun s a v x => requestor_setValue s a x v) v fuel s t x

/-- the one allocation a world effect may make -/
inductive Alloc where
  | none
  | fn (o : FnObj)
  | cell (c : Cell)

def Alloc.apply : Alloc → Store → Store
  | .none, s => s
  | .fn o, s => { s with fns := s.fns.push o }
  | .cell c, s => { s with cells := s.cells.push c }

theorem loadPath_alloc {st st' : Store} (hs : st'.cells.size = st.cells.size) (w : World) (sp : Span) (path : String) :
    ∃ a wr, doWorld.loadPath st w sp path = (Alloc.apply a st, wr) ∧
      doWorld.loadPath st' w sp path = (Alloc.apply a st', wr) := by
  unfold doWorld.loadPath
  simp only [hs]  -- the store is read once: `cells.size`, the id of the module's cell
  cases w.registry.lookup path with
  | some t => exact ⟨.none, _, rfl, rfl⟩  -- loaded before
  | none =>
    cases World.getFile w path with
    | none => exact ⟨.none, _, rfl, rfl⟩
    | some bytes =>
      dsimp only
      cases utf8Decode bytes with
      | none => exact ⟨.none, _, rfl, rfl⟩
      | some cps =>
        dsimp only
        match parse normChar cps with
        | .ok [e] => exact ⟨.cell _, _, rfl, rfl⟩  -- one expression: it is delayed in a new cell
        | .error _ | .ok [] | .ok (_ :: _ :: _) => exact ⟨.none, _, rfl, rfl⟩

/-- `doWorld` reads the store through `fns` (file handles, the id of a new file object) and `cells.size` (the id of a new
module cell) only, so on two stores that agree there it takes the same branch; two branches allocate -/
theorem doWorld_alloc {st st' : Store} (hf : st'.fns = st.fns) (hs : st'.cells.size = st.cells.size) (w : World)
    (op : WOp) : ∃ a wr, doWorld st w op = (Alloc.apply a st, wr) ∧ doWorld st' w op = (Alloc.apply a st', wr) := by
  unfold doWorld
  simp only [hf]
  cases op with
  | fopen sp p m =>
    cases p with
    | str path =>
      dsimp only
      cases fileModes.idxOf? (encodeNumber m) with
      | none => exact ⟨.none, _, rfl, rfl⟩
      | some mi =>
        dsimp only
        match openFile w path mi with
        | .ok (h, w') => exact ⟨.fn _, _, rfl, by simp [Alloc.apply, hf]⟩  -- a new file object, at `fns.size` in both stores
        | .error e => exact ⟨.none, _, rfl, rfl⟩
    | _ => exact ⟨.none, _, rfl, rfl⟩
  | importLit sp lits =>
    simp only []
    split
    · cases loadBuiltinModule sp lits <;> exact ⟨.none, _, rfl, rfl⟩  -- a built-in module
    · cases searchFile w (lits.length + 1) lits "" with
      | notFound | ambiguous => exact ⟨.none, _, rfl, rfl⟩
      | found path => exact loadPath_alloc hs w sp path
  | importPath sp path =>
    simp only []
    split
    · exact ⟨.none, _, rfl, rfl⟩
    · split
      · exact ⟨.none, _, rfl, rfl⟩
      · exact loadPath_alloc hs w sp _
  | readLine sp => simp only []; split <;> exact ⟨.none, _, rfl, rfl⟩
  | print sp s => exact ⟨.none, _, rfl, rfl⟩
  | fclose | fread | fwrite | ftell | fseek | ftrunc => simp only []; split <;> (try split) <;> exact ⟨.none, _, rfl, rfl⟩

end UH
