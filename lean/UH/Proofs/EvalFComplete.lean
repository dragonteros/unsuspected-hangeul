/-
The executable big-step evaluator is complete for the natural semantics: every derivation is found with enough fuel,
at a height not above the derivation's.  With soundness (`evalF_sound`) this makes `Eval` and `evalF` two presentations
of one partial function — in particular `Eval` is deterministic, for coroutines and frames alike.
-/
import UH.Proofs.EvalF
import UH.Proofs.Eventually
namespace UH.BigStep
open UH

theorem Instr.evalF_succ {s w c s1 w1 c1} (hi : Instr s w c s1 w1 c1) (n : Nat) :
    evalF (n + 1) s w (.comp c) = evalF n s1 w1 (.comp c1) := by
  cases hi with
  | @served t k ke o hv => cases o <;> simp only [evalF, hv, pick]
  | newThunk => rfl
  | newFn => rfl
  | getFn hg => simp only [evalF, hg]
  | worldOk hd => simp only [evalF, hd]
  | worldErr hd => simp only [evalF, hd]

/-- stated for all fuel from some amount on, so that two searches can be joined without a monotonicity lemma for
`evalF`; the height found does not depend on the fuel -/
theorem evalF_complete_eventually {s w task h r s' w'} (hev : Eval s w task h r s' w') :
    ∃ h', h' ≤ h ∧ Eventually fun n => evalF n s w task = .ok ⟨r, s', w', h'⟩ := by
  induction hev using Eval.induct with
  | done s w h r => exact ⟨0, Nat.zero_le _, .of_succ fun _ => by cases r <;> rfl⟩
  | instr hi _ ih =>
    obtain ⟨h', hl, e⟩ := ih
    exact ⟨h', hl, e.succ fun j ej => by rw [hi.evalF_succ, ej]⟩
  | demand o hv _ _ ih1 ih2 =>
    obtain ⟨h1, l1, e1⟩ := ih1
    obtain ⟨h2, l2, e2⟩ := ih2
    exact ⟨max h1 h2, by omega, (e1.and e2).succ fun j ⟨a, b⟩ => by
      cases o <;> simp only [outRes, pick] at a b <;> simp only [evalF, hv, a, b]⟩
  | @call _ _ _ _ _ _ x _ _ _ _ _ _ _ ih1 ih2 =>
    obtain ⟨h1, l1, e1⟩ := ih1
    obtain ⟨h2, l2, e2⟩ := ih2
    exact ⟨max h1 h2, by omega, (e1.and e2).succ fun j ⟨a, b⟩ => by
      cases x <;> simp only [pick] at b <;> simp only [evalF, a, b]⟩
  | frameEnd o _ ih =>
    obtain ⟨h', hl, e⟩ := ih
    exact ⟨h' + 1, by omega, e.succ fun j ej => by cases o <;> simp only [outRes] at ej ⊢ <;> simp only [evalF, ej]⟩
  | frameTail _ _ ih1 ih2 =>
    obtain ⟨h1, l1, e1⟩ := ih1
    obtain ⟨h2, l2, e2⟩ := ih2
    exact ⟨max (h1 + 1) h2, by omega, (e1.and e2).succ fun j ⟨a, b⟩ => by simp only [evalF, a, b]⟩

theorem evalF_complete {s w task h r s' w'} (hev : Eval s w task h r s' w') :
    ∃ fuel h', evalF fuel s w task = .ok ⟨r, s', w', h'⟩ ∧ h' ≤ h := by
  obtain ⟨h', hl, e⟩ := evalF_complete_eventually hev
  obtain ⟨f, ef⟩ := e.exists
  exact ⟨f, h', ef, hl⟩

theorem Eval.deterministic {s w task h1 h2 r1 r2 s1 s2 w1 w2}
    (e1 : Eval s w task h1 r1 s1 w1) (e2 : Eval s w task h2 r2 s2 w2) : r1 = r2 ∧ s1 = s2 ∧ w1 = w2 := by
  obtain ⟨_, _, a1⟩ := evalF_complete_eventually e1
  obtain ⟨_, _, a2⟩ := evalF_complete_eventually e2
  obtain ⟨n, b1, b2⟩ := (a1.and a2).exists
  have b := b1.symm.trans b2
  simp only [Except.ok.injEq, BigResult.mk.injEq] at b
  exact ⟨b.1, b.2.1, b.2.2.1⟩

/-- the bounds on the heights play no part -/
theorem Eval.head_deterministic {s w c h1 h2 r1 r2 s1 s2 w1 w2}
    (e1 : Eval s w (.comp c) h1 r1 s1 w1) (e2 : Eval s w (.comp c) h2 r2 s2 w2)
    (hh1 : h1 < maxStackSize) (hh2 : h2 < maxStackSize) : r1 = r2 ∧ s1 = s2 ∧ w1 = w2 :=
  e1.deterministic e2

/-- every derivation can be replayed at a height not above its own -/
theorem evalF_least_height {s w task h r s' w'} (hev : Eval s w task h r s' w') :
    ∃ h', h' ≤ h ∧ Eval s w task h' r s' w' := by
  obtain ⟨f, h', e, hl⟩ := evalF_complete hev
  exact ⟨h', hl, evalF_sound f s w task _ e⟩

end UH.BigStep
