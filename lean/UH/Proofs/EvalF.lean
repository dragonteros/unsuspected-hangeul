/-
The executable big-step evaluator `evalF` only returns what the natural semantics derives, hence what
the micro-step machine computes.
-/
import UH.Proofs.NatSem
namespace UH.BigStep
open UH

theorem evalF_sound : ∀ (fuel : Nat) (s : Store) (w : World) (task : Task) (br : BigResult),
    evalF fuel s w task = .ok br → Eval s w task br.height br.res br.store br.world := by
  intro fuel
  induction fuel with
  | zero => intro s w task br h; simp [evalF] at h
  | succ fuel ih =>
    intro s w task br h
    -- `match` by `match` through `evalF`.  A case in which a sub-evaluation failed (`h : .error _ = .ok br`) is left out: `match`
    -- refutes it.  A result `evalF` has no use for (its `.ok _ => .error .bottom`) is written out: there `match` is slow.
    -- `andThen` is the second half of every two-part rule: `evalF` runs the rest `T` and joins the heights by `max`.
    have andThen : ∀ {s1 w1 T H} {br : BigResult}, (match evalF fuel s1 w1 T with
          | .ok ⟨r, s2, w2, h2⟩ => .ok ⟨r, s2, w2, max H h2⟩
          | .error st => .error st) = (.ok br : Except BigStop BigResult) →
        H ≤ br.height ∧ Eval s1 w1 T br.height br.res br.store br.world := by
      intro s1 w1 T H br h
      cases hk : evalF fuel s1 w1 T with
      | error st => rw [hk] at h; cases h
      | ok b => rw [hk] at h; cases h; exact ⟨Nat.le_max_left .., (ih _ _ _ _ hk).mono _ (Nat.le_max_right ..)⟩
    cases task with
    | comp c =>
      cases c with
      | ret r => simp only [evalF] at h; cases h; exact .ret _ _ _ _
      | throw e => simp only [evalF] at h; cases h; exact .throw _ _ _ _
      | bottom => simp [evalF] at h
      | unmodelled why => simp [evalF] at h
      | force t k ke =>
        simp only [evalF] at h
        match hv : (s.getCell t).value, h with
        | some (.ok v), h => exact .forceOk hv (ih _ _ _ _ h)
        | some (.error e), h => exact .forceErr hv (ih _ _ _ _ h)
        | none, h =>
          match hf : evalF fuel s w (.frame t), h with
          | .ok ⟨.ok (.arg (.strict v)), s1, w1, h1⟩, h =>
            obtain ⟨hle, ek⟩ := andThen h
            exact .forceEvalOk hv ((ih _ _ _ _ hf).mono _ hle) ek
          | .ok ⟨.error e, s1, w1, h1⟩, h =>
            obtain ⟨hle, ek⟩ := andThen h
            exact .forceEvalErr hv ((ih _ _ _ _ hf).mono _ hle) ek
          | .ok ⟨.ok (.arg (.thunk _ _)), _, _, _⟩, h | .ok ⟨.ok (.key _), _, _, _⟩, h
          | .ok ⟨.ok (.str _), _, _, _⟩, h => cases h  -- not the result of a frame: `evalF` stops
      | newThunk e env k => simp only [evalF] at h; exact .newThunk (ih _ _ _ _ h)
      | newFn mk k => simp only [evalF] at h; exact .newFn (ih _ _ _ _ h)
      | getFn id k =>
        simp only [evalF] at h
        match ho : s.fns.get? id, h with
        | some o, h => exact .getFn ho (ih _ _ _ _ h)
      | call op k ke =>
        simp only [evalF] at h
        match hf : evalF fuel s w (.comp (expand op)), h with
        | .ok ⟨.ok x, s1, w1, h1⟩, h =>
          obtain ⟨hle, ek⟩ := andThen h
          exact .callOk ((ih _ _ _ _ hf).mono _ hle) ek
        | .ok ⟨.error e, s1, w1, h1⟩, h =>
          obtain ⟨hle, ek⟩ := andThen h
          exact .callErr ((ih _ _ _ _ hf).mono _ hle) ek
      | world op k ke =>
        simp only [evalF] at h
        match hd : doWorld s w op, h with
        | (s1, w1, .ok a), h => exact .worldOk hd (ih _ _ _ _ h)
        | (s1, w1, .err e), h => exact .worldErr hd (ih _ _ _ _ h)
    | frame t =>
      simp only [evalF] at h
      match hf : evalF fuel s w (.comp (newFrame s t).cur), h with
      | .ok ⟨.ok (.arg (.strict v)), s1, w1, h1⟩, h => cases h; exact .frameVal (ih _ _ _ _ hf)
      | .ok ⟨.error e, s1, w1, h1⟩, h => cases h; exact .frameErr (ih _ _ _ _ hf)
      | .ok ⟨.ok (.arg (.thunk t' lit)), s1, w1, h1⟩, h =>
        obtain ⟨hle, ek⟩ := andThen h
        -- `frameTail` concludes at a successor height: the one returned is above `h1 + 1`
        obtain ⟨m, hm⟩ : ∃ m, br.height = m + 1 := ⟨br.height - 1, by omega⟩
        rw [hm] at ek ⊢
        have e1 : Eval s w (.comp (newFrame s t).cur) h1 _ s1 w1 := ih _ _ _ _ hf
        exact .frameTail (e1.mono m (by omega)) ek
      | .ok ⟨.ok (.key _), _, _, _⟩, h | .ok ⟨.ok (.str _), _, _, _⟩, h => cases h  -- `evalF` stops

/-- the executable big-step evaluator agrees with the machine when the height it reports fits under `MAX_STACK_SIZE` -/
theorem evalF_machine (fuel : Nat) (s : Store) (w : World) (c : Comp Res) (br : BigResult)
    (h : evalF fuel s w (.comp c) = .ok br) (hh : br.height < maxStackSize) :
    ∃ n, (runN n (initState s w c)).status = .done br.res ∧ (runN n (initState s w c)).store = br.store ∧
      (runN n (initState s w c)).world = br.world :=
  (evalF_sound fuel s w _ br h).run_head hh

end UH.BigStep
