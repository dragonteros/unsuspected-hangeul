/-
How `>>=` of `Comp`, forcing and the argument checks of `Model/Util.lean` compute on the forms the properties feed them.
All but `bind_assoc` and `forceAll_map_strict` hold by `rfl`; those tagged `simp` spare the proofs of the property files about a built-in's coroutine tree from
unfolding `Bind.bind`, `Comp.bind`, `forceAll`, `checkType`, … themselves (the big-step rules, whose statements are written
with `Comp.bind`, unfold by hand).
-/
import UH.Model.Util
namespace UH
open Comp

namespace Comp
variable {α β : Type}

@[simp] theorem ret_bind (a : α) (f : α → Comp β) : (ret a >>= f) = f a := rfl
@[simp] theorem throw_bind (e : ErrV) (f : α → Comp β) : ((throw e : Comp α) >>= f) = throw e := rfl
@[simp] theorem call_bind (op : Op) (k : Res → Comp α) (ke : ErrV → Comp α) (f : α → Comp β) :
    (call op k ke >>= f) = call op (fun r => k r >>= f) (fun e => ke e >>= f) := rfl
theorem call_congr (op : Op) {k k' : Res → Comp α} (ke : ErrV → Comp α) (h : ∀ r, k r = k' r) :
    call op k ke = call op k' ke := by rw [funext h]
@[simp] theorem pure_eq_ret (a : α) : (pure a : Comp α) = ret a := rfl

/-- stated with `Comp.bind`, the form in which the big-step rules meet it -/
theorem bind_assoc {γ : Type} (m : Comp α) (f : α → Comp β) (g : β → Comp γ) :
    (m.bind f).bind g = m.bind (fun a => (f a).bind g) := by
  induction m with
  | ret a => rfl
  | throw e => rfl
  | bottom => rfl
  | unmodelled w => rfl
  | force t k ke ih1 ih2 => simp only [Comp.bind]; congr 1 <;> funext x <;> first | exact ih1 x | exact ih2 x
  | newThunk e env k ih => simp only [Comp.bind]; congr 1; funext x; exact ih x
  | newFn mk k ih => simp only [Comp.bind]; congr 1; funext x; exact ih x
  | getFn c k ih => simp only [Comp.bind]; congr 1; funext x; exact ih x
  | call op k ke ih1 ih2 => simp only [Comp.bind]; congr 1 <;> funext x <;> first | exact ih1 x | exact ih2 x
  | world op k ke ih1 ih2 => simp only [Comp.bind]; congr 1 <;> funext x <;> first | exact ih1 x | exact ih2 x

@[simp] theorem forceArg_strict (v : Val) : forceArg (.strict v) = ret v := rfl
@[simp] theorem forceAll_nil : forceAll [] = ret [] := rfl
@[simp] theorem forceAll_strict (v : Val) (as : List Arg) :
    forceAll (.strict v :: as) = (forceAll as >>= fun vs => ret (v :: vs)) := rfl

@[simp] theorem forceAll_map_strict (vs : List Val) : forceAll (vs.map Arg.strict) = ret vs := by
  induction vs with
  | nil => rfl
  | cons v vs ih => rw [List.map_cons, forceAll_strict, ih, ret_bind]

end Comp

@[simp] theorem checkType_eq (sp : Span) (vs : List Val) (p : Val → Bool) :
    checkType sp vs p = if vs.all p then ret () else throw (typeErr sp) := rfl
@[simp] theorem checkArity_eq (sp : Span) (n : Nat) (arities : List Nat) :
    checkArity sp n arities = if arities.contains n then ret () else throw (valueErr sp) := rfl

namespace BigStep

/-- the literal tag `interpret` gives a delayed argument expression (`arg.value if isinstance(arg, Literal) else None`):
built-in names are recognised by it without evaluating the expression -/
def tagOf (e : AST) : Option Int := match e with | .lit n _ => some n | _ => none

end BigStep

end UH
