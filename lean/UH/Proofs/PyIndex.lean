/-
Python's index rule `pyIndex` (`Model/Value.lean`), shared by C02 (nesting indices of function and argument references),
C12 (indexing of sequences) and the call-by-name reference semantics (environments and lists of delayed expressions).
-/
import UH.Model.Value
namespace UH

theorem pyIndex_of_nonneg {α} (l : List α) (i : Int) (h : 0 ≤ i) : pyIndex l i = l[i.toNat]? := by
  simp only [pyIndex, h, if_true]

theorem pyIndex_of_neg {α} (l : List α) (i : Int) (h : i < 0) (h' : -(l.length : Int) ≤ i) :
    pyIndex l i = l[(l.length + i).toNat]? := by
  unfold pyIndex; rw [if_neg (by omega), if_pos (by omega)]

theorem pyIndex_isSome_iff {α} (l : List α) (i : Int) :
    (pyIndex l i).isSome = true ↔ -(l.length : Int) ≤ i ∧ i < l.length := by
  unfold pyIndex
  split
  · rw [isSome_getElem?]; omega
  split
  · rw [isSome_getElem?]; omega
  · rw [Option.isSome_none, Bool.false_eq_true, false_iff]; omega

theorem pyIndex_map {α β} (g : α → β) (l : List α) (i : Int) : pyIndex (l.map g) i = (pyIndex l i).map g := by
  unfold pyIndex
  rw [List.length_map]
  split
  · exact List.getElem?_map ..
  · split
    · exact List.getElem?_map ..
    · rfl

theorem pyIndex_map_eq_some {α β} {g : α → β} {l : List α} {i : Int} {y : β} (h : pyIndex (l.map g) i = some y) :
    ∃ x, pyIndex l i = some x ∧ g x = y := by
  rw [pyIndex_map] at h; exact Option.map_eq_some_iff.1 h

theorem pyIndex_mem {α} {l : List α} {i : Int} {x : α} (h : pyIndex l i = some x) : x ∈ l := by
  unfold pyIndex at h
  split at h
  · exact List.mem_of_getElem? h
  · split at h
    · exact List.mem_of_getElem? h
    · cases h

end UH
