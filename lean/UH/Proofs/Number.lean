/-
The literal codec (`Model/Number.lean`): little-endian base-8 digits, length parity as the sign.  `parseNumber_eq_iff` says which
words denote which integer; the theorems of C08 are read off it.
-/
import UH.Model.Number
namespace UH

@[simp] theorem digitsVal_nil : digitsVal [] = 0 := rfl
@[simp] theorem digitsVal_cons (d : Digit) (ds) : digitsVal (d :: ds) = d.val + 8 * digitsVal ds := rfl

theorem digitsVal_append (a b : List Digit) :
    digitsVal (a ++ b) = digitsVal a + 8 ^ a.length * digitsVal b := by
  induction a with
  | nil => simp
  | cons d ds ih =>
    simp only [List.cons_append, digitsVal_cons, ih, List.length_cons, Nat.pow_succ, Nat.mul_add,
      Nat.mul_comm (8 ^ ds.length) 8, Nat.mul_assoc, Nat.add_assoc]

@[simp] theorem digitsVal_replicate_zero (k : Nat) : digitsVal (List.replicate k (0 : Digit)) = 0 := by
  induction k with
  | zero => rfl
  | succ k ih => simp [List.replicate_succ, ih]

theorem digitsVal_pad (w : List Digit) (k : Nat) :
    digitsVal (w ++ List.replicate k (0 : Digit)) = digitsVal w := by
  simp [digitsVal_append]

theorem natDigits_lt (n : Nat) (h : n < 8) : natDigits n = [⟨n, h⟩] := by
  rw [natDigits]; simp [h]

theorem natDigits_ge (n : Nat) (h : ¬ n < 8) :
    natDigits n = ⟨n % 8, Nat.mod_lt _ (by decide)⟩ :: natDigits (n / 8) := by
  rw [natDigits]; simp [h]

theorem digitsVal_natDigits (n : Nat) : digitsVal (natDigits n) = n := by
  induction n using Nat.strongRecOn with
  | _ n ih =>
    by_cases h : n < 8
    · simp [natDigits_lt n h]
    · rw [natDigits_ge n h]
      simp [ih (n / 8) (by omega)]
      omega

theorem natDigits_ne_nil (n : Nat) : natDigits n ≠ [] := by
  by_cases h : n < 8
  · simp [natDigits_lt n h]
  · simp [natDigits_ge n h]

theorem digits_unique (w : List Digit) (hw : w ≠ []) :
    ∃ j, w = natDigits (digitsVal w) ++ List.replicate j (0 : Digit) := by
  induction w with
  | nil => exact absurd rfl hw
  | cons d ds ih =>
    by_cases hds : ds = []
    · subst hds
      refine ⟨0, ?_⟩
      simp [natDigits_lt d.val d.isLt]
    · obtain ⟨j, hj⟩ := ih hds
      by_cases hv : digitsVal ds = 0
      · refine ⟨j + 1, ?_⟩
        rw [hv, natDigits_lt 0 (by decide)] at hj
        simp only [digitsVal_cons, hv, Nat.mul_zero, Nat.add_zero, natDigits_lt d.val d.isLt]
        rw [hj]
        simp [List.replicate_succ]
      · refine ⟨j, ?_⟩
        have hge : ¬ (d.val + 8 * digitsVal ds < 8) := by omega
        rw [digitsVal_cons, natDigits_ge _ hge]
        have e1 : (d.val + 8 * digitsVal ds) % 8 = d.val := by omega
        have e2 : (d.val + 8 * digitsVal ds) / 8 = digitsVal ds := by omega
        simp only [e2, List.cons_append]
        rw [← hj]
        congr 1
        exact Fin.ext e1.symm

theorem parseNumber_eq_iff (w : List Digit) (n : Int) :
    parseNumber w = n ↔ digitsVal w = n.natAbs ∧ (n ≠ 0 → (w.length % 2 = 0 ↔ n < 0)) := by
  unfold parseNumber
  split
  · omega  -- even length: `n = -digitsVal w`, that is `|n| = digitsVal w` and `n ≤ 0`
  · omega  -- odd length: `n = digitsVal w`, that is `|n| = digitsVal w` and `0 ≤ n`

theorem encodeNumber_zero : encodeNumber 0 = [0] := by
  simp [encodeNumber, natDigits_lt]

end UH
