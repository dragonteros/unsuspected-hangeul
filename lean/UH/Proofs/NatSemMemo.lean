/-
Memo cells in the big-step semantics (C13): what evaluation has learned is never forgotten (`Eval.store_induction` and its
instances), and a frame that ends with its own value leaves exactly that value in its cell (`frame_value_recorded`; the case of
an exception is `NatSemP.failure_recorded`).
-/
import UH.Proofs.NatSem
import UH.Properties.C13
namespace UH.BigStep
open UH

def Known (s : Store) (t : TId) : Prop := (s.getCell t).value ≠ none

theorem known_setValue {s : Store} {t : TId} (a : TId) (v : Outcome) (h : Known s t) : Known (s.setValue a v) t := by
  unfold Known at h ⊢
  rw [value_setValue]
  split
  · exact nofun
  · exact h

/-- what evaluation does to the store: it allocates cells and function objects, records outcomes and links
requestors, nothing else -/
theorem Eval.store_induction {R : Store → Store → Prop} (refl : ∀ s, R s s) (trans : ∀ {a b c}, R a b → R b c → R a c)
    (cell : ∀ s c, R s { s with cells := s.cells.push c }) (fn : ∀ s o, R s { s with fns := s.fns.push o })
    (set : ∀ s a v, R s (s.setValue a v)) (link : ∀ s a b, R s (setRequestor s a b))
    {s w task h r s' w'} (hev : Eval s w task h r s' w') : R s s' := by
  have world : ∀ {s w op s1 w1 x}, doWorld s w op = (s1, w1, x) → R s s1 := by
    intro s w op s1 w1 x hd
    obtain ⟨a, wr, h, _⟩ := doWorld_alloc (st' := s) rfl rfl w op
    obtain rfl : Alloc.apply a s = s1 := congrArg Prod.fst (h.symm.trans hd)
    cases a with
    | none => exact refl s
    | fn o => exact fn s o
    | cell c => exact cell s c
  -- by the sixteen constructors: grouped they are shorter than the six rules, whose `instr` case splits again
  induction hev with
  | ret | throw => exact refl _
  | forceOk _ _ ih | forceErr _ _ ih | getFn _ _ ih => exact ih
  | forceEvalOk _ _ _ ih1 ih2 | forceEvalErr _ _ _ ih1 ih2 | callOk _ _ ih1 ih2 | callErr _ _ ih1 ih2 =>
    exact trans ih1 ih2
  | newThunk _ ih => exact trans (cell _ _) ih
  | newFn _ ih => exact trans (fn _ _) ih
  | worldOk hd _ ih | worldErr hd _ ih => exact trans (world hd) ih
  | frameVal _ ih | frameErr _ ih => exact trans ih (Store.resolve_induction refl trans set _ _ _ _)
  | frameTail _ _ ih1 ih2 => exact trans ih1 (trans (link _ _ _) ih2)

/-- evaluation never forgets: every cell that held an outcome before still holds one afterwards -/
theorem Eval.knowledge_grows {s w task h r s' w'} (hev : Eval s w task h r s' w') :
    HeapWF s.cells → HeapWF s'.cells ∧ ∀ t, Known s t → Known s' t := by
  refine hev.store_induction (R := fun s s' => HeapWF s.cells → HeapWF s'.cells ∧ ∀ t, Known s t → Known s' t)
    (fun _ hw => ⟨hw, fun _ h => h⟩)
    (fun h1 h2 hw => ⟨(h2 (h1 hw).1).1, fun t ht => (h2 (h1 hw).1).2 t ((h1 hw).2 t ht)⟩)
    (fun s c hw => ⟨hw.push c, fun t ht => ?_⟩) (fun _ _ hw => ⟨hw, fun _ h => h⟩)
    (fun s a v hw => ⟨hw.modify _ _, fun _ => known_setValue a v⟩)
    (fun s a b hw => ⟨hw.modify _ _, fun t ht => ?_⟩)
  · -- a cell with a value exists, so it lies below `size` (`hw`) and is not the new one
    have hex : (s.cells.get? t).isSome := isSome_of_getCell_ne fun e => ht (by rw [e]; rfl)
    unfold Known at ht ⊢
    rwa [getCell_push, if_neg (Nat.ne_of_lt (hw t hex))]
  · unfold Known at ht ⊢
    rwa [value_setRequestor]

theorem Eval.cells_persist {s w task h r s' w'} (hev : Eval s w task h r s' w') :
    ∀ u, (s.cells.get? u).isSome → (s'.cells.get? u).isSome :=
  hev.store_induction (R := fun s s' => ∀ u, (s.cells.get? u).isSome → (s'.cells.get? u).isSome)
    (fun _ _ h => h) (fun h1 h2 u h => h2 u (h1 u h)) (fun _ _ _ h => Heap.isSome_get?_push_iff.2 (.inr h)) (fun _ _ _ h => h)
    (fun s a v u h => by rwa [isSome_get?_setValue])
    (fun s a b u h => by rwa [isSome_get?_setRequestor])

/-- a frame that ends with its own value leaves exactly that value in its cell — every later demand is then
served from the cell (`Eval.forceOk`) -/
theorem frame_value_recorded {s w h t v s1 w1}
    (hc : Eval s w (.comp (newFrame s t).cur) h (.ok (.arg (.strict v))) s1 w1) (ht : (s.cells.get? t).isSome) :
    ((s1.resolve (s1.cells.size + 1) t (.ok v)).getCell t).value = some (.ok v) :=
  C13.resolve_sets_own _ _ _ _ (hc.cells_persist _ ht)

end UH.BigStep
