/-
A memo-free, store-free reference semantics of the core calculus — call by name on trees — and its executable form.

`BN ρ e v` : in the tree environment `ρ` (enclosing functions and their unevaluated argument
expressions, each with the environment it was written in) the expression `e` has the value `v`: the lexically scoped,
non-strict reading of docs/spec.md.

`bnEval` (UH/Model/ByNameEval.lean, driver command `bn`) is `BN` as a function with fuel.  It returns only values of `BN`
(`bnEval_sound`) and every value of `BN` from some fuel on (`bnEval_complete`): the command against which the
correspondence compares the implementation is the reference semantics, and a relation that a function computes is
single-valued (`BN.deterministic`).  That the evaluator computes these values is UH/Proofs/Adequacy.lean.
-/
import UH.Proofs.Comp
import UH.Proofs.Eventually
import UH.Model.ByNameEval
namespace UH.ByName
open UH BigStep

inductive BN : TEnv → AST → TVal → Prop
  | lit {ρ n sp} : BN ρ (.lit n sp) (.int n)
  | funDef {ρ b sp} : BN ρ (.funDef b sp) (.clo b ρ)
  | funRef {ρ rel sp b ρ'} : pyIndex ρ.funs (-rel - 1) = some (b, ρ') → BN ρ (.funRef rel sp) (.clo b ρ')
  | argRef {ρ a relF sp frame i e' ρ' v} : pyIndex ρ.args (-relF - 1) = some frame →
      BN ρ a (.int i) → 0 ≤ i ∧ i < frame.length → frame[i.toNat]? = some (e', ρ') →
      BN ρ' e' v → BN ρ (.argRef a relF sp) v
  | call {ρ f args sp b ρd v} : tagOf f = none → BN ρ f (.clo b ρd) →
      BN (.mk (ρd.funs ++ [(b, ρd)]) (ρd.args ++ [args.map (fun a => (a, ρ))])) b v →
      BN ρ (.call f args sp) v
  /-- the Boolean constants ㅈㅈ / ㄱㅈ -/
  | ctrue {ρ n spf sp} : encodeNumber n = [7, 7] → BN ρ (.call (.lit n spf) [] sp) (.bool true)
  | cfalse {ρ n spf sp} : encodeNumber n = [0, 7] → BN ρ (.call (.lit n spf) [] sp) (.bool false)
  | sel {ρ f x y sp b v} : tagOf f = none → BN ρ f (.bool b) → BN ρ (if b then x else y) v → BN ρ (.call f [x, y] sp) v
  /-- ㄴ -/
  | eqInt {ρ n spf a1 a2 sp x y} : encodeNumber n = [1] → BN ρ a1 (.int x) → BN ρ a2 (.int y) →
      BN ρ (.call (.lit n spf) [a1, a2] sp) (.bool (x == y))
  /-- ㄷ -/
  | addInt {ρ n spf a1 a2 sp x y} : encodeNumber n = [2] → BN ρ a1 (.int x) → BN ρ a2 (.int y) →
      BN ρ (.call (.lit n spf) [a1, a2] sp) (.int (x + y))
  /-- ㄱ -/
  | mulInt {ρ n spf a1 a2 sp x y} : encodeNumber n = [0] → BN ρ a1 (.int x) → BN ρ a2 (.int y) →
      BN ρ (.call (.lit n spf) [a1, a2] sp) (.int (x * y))
  /-- ㅈ -/
  | ltInt {ρ n spf a1 a2 sp x y} : encodeNumber n = [7] → BN ρ a1 (.int x) → BN ρ a2 (.int y) →
      BN ρ (.call (.lit n spf) [a1, a2] sp) (.bool (decide (x < y)))
  /-- ㄴㅁ: the truncated remainder -/
  | remInt {ρ n spf a1 a2 sp x y} : encodeNumber n = [1, 4] → BN ρ a1 (.int x) → BN ρ a2 (.int y) → y ≠ 0 →
      BN ρ (.call (.lit n spf) [a1, a2] sp) (.int (Int.tmod x y))
  /-- ㅁㄹ builds a list of its argument expressions, none of them evaluated -/
  | mkList {ρ n spf args sp} : encodeNumber n = [4, 3] →
      BN ρ (.call (.lit n spf) args sp) (.list (args.map (fun a => (a, ρ))))
  /-- ㅈㄷ of a list: its number of elements — the list is evaluated, its elements are not -/
  | lenList {ρ n spf a sp elems} : encodeNumber n = [7, 2] → BN ρ a (.list elems) →
      BN ρ (.call (.lit n spf) [a] sp) (.int elems.length)
  /-- a list applied to an integer: the element at that position (negative positions count from the end) is evaluated —
  and no other element -/
  | index {ρ f a sp elems i e' ρ' v} : tagOf f = none → BN ρ f (.list elems) → BN ρ a (.int i) →
      pyIndex elems i = some (e', ρ') → BN ρ' e' v → BN ρ (.call f [a] sp) v

theorem isLit_eq_tagOf (f : AST) : isLit f = tagOf f := by cases f <;> rfl

theorem isLit_lit (n : Int) (sp : Span) : isLit (.lit n sp) = some n := rfl

theorem isLit_none {f : AST} (hf : tagOf f = none) : isLit f = none := (isLit_eq_tagOf f).trans hf

def intPrim : List Digit → Option (Int → Int → Option TVal)
  | [1] => some fun x y => some (.bool (x == y))
  | [2] => some fun x y => some (.int (x + y))
  | [0] => some fun x y => some (.int (x * y))
  | [7] => some fun x y => some (.bool (decide (x < y)))
  | [1, 4] => some fun x y => if y = 0 then none else some (.int (Int.tmod x y))
  | _ => none

theorem BN.ofIntPrim {ρ n spf a1 a2 sp x y op r} (hp : intPrim (encodeNumber n) = some op)
    (h1 : BN ρ a1 (.int x)) (h2 : BN ρ a2 (.int y)) (hr : op x y = some r) :
    BN ρ (.call (.lit n spf) [a1, a2] sp) r := by
  unfold intPrim at hp
  split at hp
  · cases hp; cases hr; exact .eqInt ‹_› h1 h2
  · cases hp; cases hr; exact .addInt ‹_› h1 h2
  · cases hp; cases hr; exact .mulInt ‹_› h1 h2
  · cases hp; cases hr; exact .ltInt ‹_› h1 h2
  · cases hp
    by_cases hy : y = 0
    · simp [hy] at hr
    · simp only [if_neg hy, Option.some.injEq] at hr; subst hr; exact .remInt ‹_› h1 h2 hy
  · cases hp

/-! ### what `bnEval` does on a call of a literal, by the code of the literal

With the code known, the chain of tests in `bnEval` collapses in one `simp`; for a literal function part soundness and
completeness use these equations and never see the chain.  `bnEval` is unfolded on the left-hand side only (the right-hand
sides mention it too, and its equation lemmas are slow to generate); the closing `rfl` identifies the `match` of the statement
with the one inside `bnEval`, two auxiliary definitions with the same body. -/

theorem bnEval_ctrue {k ρ n spf args sp} (hn : encodeNumber n = [7, 7]) :
    bnEval (k + 1) ρ (.call (.lit n spf) args sp) = match args with | [] => some (.bool true) | _ => none := by
  conv => lhs; unfold bnEval
  simp [isLit, hn]; rfl

theorem bnEval_cfalse {k ρ n spf args sp} (hn : encodeNumber n = [0, 7]) :
    bnEval (k + 1) ρ (.call (.lit n spf) args sp) = match args with | [] => some (.bool false) | _ => none := by
  conv => lhs; unfold bnEval
  simp [isLit, hn]; rfl

theorem bnEval_intPrim {k ρ n spf args sp op} (hp : intPrim (encodeNumber n) = some op) :
    bnEval (k + 1) ρ (.call (.lit n spf) args sp) =
      match args with
      | [a1, a2] => (match bnEval k ρ a1, bnEval k ρ a2 with
        | some (.int x), some (.int y) => op x y
        | _, _ => none)
      | _ => none := by
  unfold intPrim at hp
  split at hp
  all_goals cases hp
  all_goals
    rename_i hn
    conv => lhs; unfold bnEval; simp [isLit, hn]
    rfl

theorem bnEval_mkList {k ρ n spf args sp} (hn : encodeNumber n = [4, 3]) :
    bnEval (k + 1) ρ (.call (.lit n spf) args sp) = some (.list (args.map (fun a => (a, ρ)))) := by
  unfold bnEval
  simp [isLit, hn]

theorem bnEval_lenList {k ρ n spf args sp} (hn : encodeNumber n = [7, 2]) :
    bnEval (k + 1) ρ (.call (.lit n spf) args sp) =
      match args with
      | [a] => (match bnEval k ρ a with | some (.list elems) => some (.int elems.length) | _ => none)
      | _ => none := by
  conv => lhs; unfold bnEval
  simp [isLit, hn]; rfl

theorem bnEval_noPrim {k ρ n spf args sp} (h1 : encodeNumber n ≠ [7, 7]) (h2 : encodeNumber n ≠ [0, 7])
    (hp : intPrim (encodeNumber n) = none) (h4 : encodeNumber n ≠ [4, 3]) (h5 : encodeNumber n ≠ [7, 2]) :
    bnEval (k + 1) ρ (.call (.lit n spf) args sp) = none := by
  -- `split at hp` would give these with the literals at type `Fin 8`, which `simp` does not identify with `Digit`
  have c1 : encodeNumber n ≠ [1] := fun e => by rw [e] at hp; cases hp
  have c2 : encodeNumber n ≠ [2] := fun e => by rw [e] at hp; cases hp
  have c3 : encodeNumber n ≠ [0] := fun e => by rw [e] at hp; cases hp
  have c4 : encodeNumber n ≠ [7] := fun e => by rw [e] at hp; cases hp
  have c5 : encodeNumber n ≠ [1, 4] := fun e => by rw [e] at hp; cases hp
  unfold bnEval
  simp only [isLit, h1, h2, c1, c2, c3, c4, c5, h4, h5, if_false]

theorem isLit_some {f : AST} {n : Int} (h : isLit f = some n) : ∃ sp, f = .lit n sp :=
  match f, h with
  | .lit _ sp, rfl => ⟨sp, rfl⟩

theorem bnEval_sound : ∀ (fuel : Nat) (ρ : TEnv) (e : AST) (v : TVal), bnEval fuel ρ e = some v → BN ρ e v := by
  intro fuel
  induction fuel with
  | zero => intro ρ e v h; cases h
  | succ fuel ih =>
    intro ρ e v h
    -- `match` by `match` through `bnEval` (`dsimp only at h` steps into the branch taken); the cases in which it gives `none`
    -- are left out: `match` refutes them by `h`
    cases e with
    | lit n sp => cases h; exact BN.lit
    | funDef b sp => cases h; exact BN.funDef
    | funRef rel sp =>
      unfold bnEval at h
      simp only at h
      match hidx : pyIndex ρ.funs (-rel - 1), h with
      | some (b, ρ'), h => cases h; exact BN.funRef hidx
    | argRef a relF sp =>
      unfold bnEval at h
      simp only at h
      match hfr : pyIndex ρ.args (-relF - 1), h with
      | some frame, h =>
        match hpos : bnEval fuel ρ a, h with
        | some (.int i), h =>
          dsimp only at h
          split at h
          next hi =>
            match hx : frame[i.toNat]?, h with
            | some (e', ρ'), h => exact BN.argRef hfr (ih _ _ _ hpos) hi hx (ih _ _ _ h)
          next => cases h
    | bomb => cases h
    | call f args sp =>
      cases hl : isLit f with
      | some n =>
        obtain ⟨spf, rfl⟩ := isLit_some hl
        by_cases h1 : encodeNumber n = [7, 7]
        · rw [bnEval_ctrue h1] at h
          match args, h with
          | [], h => cases h; exact BN.ctrue h1
        by_cases h2 : encodeNumber n = [0, 7]
        · rw [bnEval_cfalse h2] at h
          match args, h with
          | [], h => cases h; exact BN.cfalse h2
        by_cases h4 : encodeNumber n = [4, 3]
        · rw [bnEval_mkList h4] at h; cases h; exact BN.mkList h4
        by_cases h5 : encodeNumber n = [7, 2]
        · rw [bnEval_lenList h5] at h
          match args, h with
          | [a], h =>
            dsimp only at h
            match ha : bnEval fuel ρ a, h with
            | some (.list elems), h => cases h; exact BN.lenList h5 (ih _ _ _ ha)
        cases hp : intPrim (encodeNumber n) with
        | none => rw [bnEval_noPrim h1 h2 hp h4 h5] at h; cases h
        | some op =>
          rw [bnEval_intPrim hp] at h
          match args, h with
          | [a1, a2], h =>
            dsimp only at h
            match e1 : bnEval fuel ρ a1, h with
            | some (.int x), h =>
              match e2 : bnEval fuel ρ a2, h with
              | some (.int y), h => exact BN.ofIntPrim hp (ih _ _ _ e1) (ih _ _ _ e2) h
      | none =>
        have hf : tagOf f = none := (isLit_eq_tagOf f).symm.trans hl
        unfold bnEval at h
        simp only [hl] at h
        match hc : bnEval fuel ρ f, h with
        | some (.clo b ρd), h => exact BN.call hf (ih _ _ _ hc) (ih _ _ _ h)
        | some (.bool b), h =>
          match args, h with
          | [x, y], h => exact BN.sel hf (ih _ _ _ hc) (ih _ _ _ h)
        | some (.list elems), h =>
          match args, h with
          | [a], h =>
            dsimp only at h
            match ha : bnEval fuel ρ a, h with
            | some (.int i), h =>
              dsimp only at h
              match hidx : pyIndex elems i, h with
              | some (e', ρ'), h => exact BN.index hf (ih _ _ _ hc) (ih _ _ _ ha) hidx (ih _ _ _ h)

/-- by definition `Eventually fun k => bnEval k ρ e = some v`: the lemmas of `Eventually` apply to it as it stands -/
def Returns (ρ : TEnv) (e : AST) (v : TVal) : Prop := ∃ k0, ∀ k, k0 ≤ k → bnEval k ρ e = some v

theorem Returns.ofIntPrim {ρ n spf a1 a2 sp x y op r} (hp : intPrim (encodeNumber n) = some op)
    (h1 : Returns ρ a1 (.int x)) (h2 : Returns ρ a2 (.int y)) (hr : op x y = some r) :
    Returns ρ (.call (.lit n spf) [a1, a2] sp) r :=
  (Eventually.and h1 h2).succ fun j ⟨e1, e2⟩ => by rw [bnEval_intPrim hp]; simp only [e1, e2, hr]

theorem bnEval_complete {ρ e v} (h : BN ρ e v) : Returns ρ e v := by
  induction h with
  | lit => exact Eventually.of_succ fun _ => rfl
  | funDef => exact Eventually.of_succ fun _ => rfl
  | funRef hidx => exact Eventually.of_succ fun _ => by unfold bnEval; simp only [hidx]
  | argRef hfr _ hi hx _ ih1 ih2 =>
    exact (Eventually.and ih1 ih2).succ fun j ⟨e1, e2⟩ => by unfold bnEval; simp only [hfr, e1, if_pos hi, hx, e2]
  | call hf _ _ ih1 ih2 =>
    exact (Eventually.and ih1 ih2).succ fun j ⟨e1, e2⟩ => by unfold bnEval; simp only [isLit_none hf, e1, e2]
  | ctrue hn => exact Eventually.of_succ fun _ => by rw [bnEval_ctrue hn]
  | cfalse hn => exact Eventually.of_succ fun _ => by rw [bnEval_cfalse hn]
  | sel hf _ _ ih1 ih2 =>
    exact (Eventually.and ih1 ih2).succ fun j ⟨e1, e2⟩ => by unfold bnEval; simp only [isLit_none hf, e1, e2]
  | eqInt hn _ _ ih1 ih2 => exact .ofIntPrim (by rw [hn]; rfl) ih1 ih2 rfl
  | addInt hn _ _ ih1 ih2 => exact .ofIntPrim (by rw [hn]; rfl) ih1 ih2 rfl
  | mulInt hn _ _ ih1 ih2 => exact .ofIntPrim (by rw [hn]; rfl) ih1 ih2 rfl
  | ltInt hn _ _ ih1 ih2 => exact .ofIntPrim (by rw [hn]; rfl) ih1 ih2 rfl
  | remInt hn _ _ hy ih1 ih2 => exact .ofIntPrim (by rw [hn]; rfl) ih1 ih2 (if_neg hy)
  | mkList hn => exact Eventually.of_succ fun _ => bnEval_mkList hn
  | lenList hn _ ih1 => exact Eventually.succ ih1 fun j e1 => by rw [bnEval_lenList hn]; simp only [e1]
  | index hf _ _ hidx _ ih1 ih2 ih3 =>
    exact ((Eventually.and ih1 ih2).and ih3).succ fun j ⟨⟨e1, e2⟩, e3⟩ => by
      unfold bnEval; simp only [isLit_none hf, e1, e2, hidx, e3]

theorem BN.deterministic {ρ e v1 v2} (h1 : BN ρ e v1) (h2 : BN ρ e v2) : v1 = v2 := by
  obtain ⟨k, e1, e2⟩ := (Eventually.and (bnEval_complete h1) (bnEval_complete h2)).exists
  exact Option.some.inj (e1.symm.trans e2)

/-! ### inversion by running the evaluator

Run `bnEval` one step on the whole, with the values of the parts that are known, and read off the rest — no case analysis on
the constructors of `BN`. -/

theorem BN.sel_inv {ρ f x y sp v b} (hf : tagOf f = none) (hc : BN ρ f (.bool b)) (h : BN ρ (.call f [x, y] sp) v) :
    BN ρ (if b then x else y) v := by
  obtain ⟨K, hK⟩ := Eventually.and (bnEval_complete hc) (bnEval_complete h)
  have e := (hK (K + 1) (Nat.le_succ K)).2
  unfold bnEval at e
  simp only [isLit_none hf, (hK K (Nat.le_refl K)).1] at e
  exact bnEval_sound _ _ _ _ e

theorem BN.index_inv {ρ f a sp elems i e' ρ' v} (hf : tagOf f = none) (hl : BN ρ f (.list elems)) (ha : BN ρ a (.int i))
    (hidx : pyIndex elems i = some (e', ρ')) (h : BN ρ (.call f [a] sp) v) : BN ρ' e' v := by
  obtain ⟨K, hK⟩ := (Eventually.and (bnEval_complete hl) (bnEval_complete ha)).and (bnEval_complete h)
  have e := (hK (K + 1) (Nat.le_succ K)).2
  unfold bnEval at e
  simp only [isLit_none hf, (hK K (Nat.le_refl K)).1.1, (hK K (Nat.le_refl K)).1.2, hidx] at e
  exact bnEval_sound _ _ _ _ e

end UH.ByName
