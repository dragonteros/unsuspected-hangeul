/-
Evaluation contexts.  A context `F` wraps a coroutine and acts only when the coroutine ends: it commutes with every
instruction (`Ctx`).  `(·.bind k)` and `(·.tryCatch hd)` are contexts, by `rfl` on each node, so sequencing, exception
propagation and `try … except` are the one lemma `Eval.ctx` read for two contexts.
-/
import UH.Proofs.BigStep
namespace UH.BigStep
open UH

theorem pick_comp {α β γ : Type} (F : β → γ) (k : α → β) (ke : ErrV → β) (o : Except ErrV α) :
    pick (fun a => F (k a)) (fun e => F (ke e)) o = F (pick k ke o) := by
  cases o <;> rfl

structure Ctx (F : Comp Res → Comp Res) : Prop where
  force : ∀ t k ke, F (.force t k ke) = .force t (fun v => F (k v)) (fun e => F (ke e))
  newThunk : ∀ e env k, F (.newThunk e env k) = .newThunk e env (fun t => F (k t))
  newFn : ∀ mk k, F (.newFn mk k) = .newFn mk (fun c => F (k c))
  getFn : ∀ c k, F (.getFn c k) = .getFn c (fun o => F (k o))
  call : ∀ op k ke, F (.call op k ke) = .call op (fun x => F (k x)) (fun e => F (ke e))
  world : ∀ op k ke, F (.world op k ke) = .world op (fun a => F (k a)) (fun e => F (ke e))

theorem Ctx.bind (k : Res → Comp Res) : Ctx (·.bind k) := ⟨fun _ _ _ => rfl, fun _ _ _ => rfl, fun _ _ => rfl,
  fun _ _ => rfl, fun _ _ _ => rfl, fun _ _ _ => rfl⟩

theorem Ctx.tryCatch (hd : ErrV → Comp Res) : Ctx (·.tryCatch hd) := ⟨fun _ _ _ => rfl, fun _ _ _ => rfl, fun _ _ => rfl,
  fun _ _ => rfl, fun _ _ _ => rfl, fun _ _ _ => rfl⟩

theorem Instr.ctx {F} (hF : Ctx F) {s w c s1 w1 c1} (hi : Instr s w c s1 w1 c1) : Instr s w (F c) s1 w1 (F c1) := by
  cases hi with
  | served hv => rw [hF.force, ← pick_comp F]; exact .served hv
  | newThunk => rw [hF.newThunk]; exact .newThunk
  | newFn => rw [hF.newFn]; exact .newFn
  | getFn hg => rw [hF.getFn]; exact .getFn hg
  | worldOk hd => rw [hF.world]; exact .worldOk hd
  | worldErr hd => rw [hF.world]; exact .worldErr hd

theorem Eval.ctx_aux {F} (hF : Ctx F) {s w task h x s1 w1} (hev : Eval s w task h x s1 w1) :
    match task with
    | .comp c => ∀ r s' w', Eval s1 w1 (.comp (F (resCur x))) h r s' w' → Eval s w (.comp (F c)) h r s' w'
    | .frame _ => True := by
  induction hev using Eval.induct with
  | done s w h r => exact fun _ _ _ hk => hk
  | instr hi _ ih => exact fun r s' w' hk => (ih r s' w' hk).instr (hi.ctx hF)
  | demand o hv hf _ _ ih =>
    intro r s' w' hk
    rw [hF.force]
    exact .demand o hv hf (pick_comp F .. ▸ ih r s' w' hk)
  | call hc _ _ ih =>
    intro r s' w' hk
    rw [hF.call]
    exact .call hc (pick_comp F .. ▸ ih r s' w' hk)
  | frameEnd => trivial
  | frameTail => trivial

theorem Eval.ctx {F} (hF : Ctx F) {s w c h x s1 w1 r s' w'} (hc : Eval s w (.comp c) h x s1 w1)
    (hk : Eval s1 w1 (.comp (F (resCur x))) h r s' w') : Eval s w (.comp (F c)) h r s' w' :=
  hc.ctx_aux hF r s' w' hk

end UH.BigStep
