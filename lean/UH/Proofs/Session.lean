/-
Isolation of evaluations (C20) for the fragment of the reference semantics: a closed program evaluated in any heap that
satisfies the invariant of the adequacy proof — the initial one, or whatever earlier evaluations left behind — evaluates to
its call-by-name value, which is a function of the program text alone (`BN.deterministic`), and leaves a heap that satisfies
the invariant again.
-/
import UH.Proofs.Adequacy
namespace UH.ByName
open UH BigStep

inductive Vals : List AST → List Int → Prop
  | nil : Vals [] []
  | cons {e n es ns} : BN (.mk [] []) e (.int n) → Vals es ns → Vals (e :: es) (n :: ns)

/-- programs evaluated one after another, each delayed at the end of the heap the previous one left: the integers they
produce and the final heap -/
inductive Session (w : World) : Store → List AST → List Int → Store → Prop
  | nil (s : Store) : Session w s [] [] s
  | cons {s : Store} {e : AST} {n : Int} {h : Nat} {s1 : Store} {es : List AST} {ns : List Int} {s2 : Store} :
      Eval (alloc s e ⟨[], []⟩) w (.frame s.cells.size) h (.ok (.arg (.strict (.int n)))) s1 w →
      Session w s1 es ns s2 → Session w s (e :: es) (n :: ns) s2

/-- isolation: whatever heap the session starts from (as long as it satisfies the invariant — every heap an earlier
session produced does), each program of the session produces its own by-name value -/
theorem session_isolated (w : World) {es : List AST} {ns : List Int}
    (hv : Vals es ns) :
    ∀ (G : Ghost) (s : Store), Inv G s → ∃ (G' : Ghost) (s' : Store), Session w s es ns s' ∧ Inv G' s' := by
  induction hv with
  | nil => intro G s inv; exact ⟨G, s, .nil s, inv⟩
  | cons hbn _ ih =>
    intro G s inv
    obtain ⟨h, G1, s1, ev, inv1⟩ := adequacy_anywhere inv w hbn
    obtain ⟨G2, s2, hs, inv2⟩ := ih G1 s1 inv1
    exact ⟨G2, s2, .cons ev hs, inv2⟩

/-- no session occurs in the statement -/
theorem session_outputs_unique {w : World} {es : List AST} {ns ns' : List Int}
    (hv : Vals es ns)
    (hv' : Vals es ns') : ns = ns' := by
  induction hv generalizing ns' with
  | nil => cases hv'; rfl
  | cons hbn _ ih =>
    cases hv' with
    | cons hbn' hrest => rw [TVal.int.inj (hbn.deterministic hbn'), ih hrest]

end UH.ByName
