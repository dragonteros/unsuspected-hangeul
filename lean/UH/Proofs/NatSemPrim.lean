/-
Big-step rules for calls whose function part is a built-in name (an integer literal) or evaluates to a Boolean or a
list, and the evaluation of the built-ins the reference semantics `ByName.BN` knows on the values it knows (those on two
integers each by its own derivation, then in the one shape `Strict2` the adequacy proof consumes).
-/
import UH.Proofs.NatSem
import UH.Properties.C06
import UH.Properties.C11
namespace UH.BigStep
open UH Comp

/-- a demand that (however the memo cell stands) delivers `v`, taking the store from `s` to `s'` — at every height
from `h0` on -/
def Forces (s : Store) (w : World) (t : TId) (v : Val) (h0 : Nat) (s' : Store) : Prop :=
  ∀ h, h0 ≤ h → ∀ (k : Val → Comp Res) (ke : ErrV → Comp Res) r s'' w'',
    Eval s' w (.comp (k v)) h r s'' w'' → Eval s w (.comp (.force t k ke)) h r s'' w''

theorem Forces.memo {s : Store} (w : World) {t : TId} {v : Val} (hv : (s.getCell t).value = some (.ok v)) :
    Forces s w t v 0 s :=
  fun _ _ _ _ _ _ _ hk => .forceOk hv hk

theorem Forces.eval {s : Store} {w : World} {t : TId} {v : Val} {h0 : Nat} {s' : Store}
    (hn : (s.getCell t).value = none) (hf : Eval s w (.frame t) h0 (.ok (.arg (.strict v))) s' w) :
    Forces s w t v h0 s' :=
  fun h hh _ _ _ _ _ hk => .forceEvalOk hn (hf.mono h hh) hk

theorem interpret_call_lit (n : Int) (spf : Span) (args : List AST) (sp : Span) (env : Env) :
    interpret (.call (.lit n spf) args sp) env = .newThunk (.lit n spf) env (fun tf => do
      let argv ← mkThunks env args
      let callee ← strictFunctional sp (.thunk tf (some n))
      checkCallee isBuiltinName sp callee true
      callArg (.apply callee sp argv)) := rfl

/-- call of a built-in: the function part is an integer literal naming a built-in — it is not evaluated; the
argument expressions are delayed in the caller's environment and handed to the built-in -/
theorem rule_call_builtin (s : Store) (w : World) (h : Nat) (n : Int) (spf : Span) (args : List AST) (sp : Span) (env : Env)
    (b : Builtin) (hn : isBuiltinName n = true) (hb : builtinOf n = some b) {a : Arg} {s' : Store} {w' : World}
    (hk : Eval (allocArgs (alloc s (.lit n spf) env) env args).1 w
      (.comp ((b sp (allocArgs (alloc s (.lit n spf) env) env args).2).bind (fun x => .ret (Res.arg x)))) h (.ok (.arg a)) s' w') :
    Eval s w (.comp (bodyOf (.call (.lit n spf) args sp) env)) h (.ok (.arg a)) s' w' := by
  simp only [bodyOf, interpret_call_lit, Bind.bind, Comp.bind]
  refine .newThunk ?_
  rw [Comp.bind_assoc]
  refine eval_mkThunks args (s := alloc s (.lit n spf) env) ?_
  simp only [strictFunctional, checkCallee, hn, if_true, Comp.bind, callArg]
  refine .callOk (x := .arg a) ?_ (.ret _ _ _ _)
  simpa only [expand, applyCallee, hb, Bind.bind, pure] using hk

/-- call of a Boolean: the function part evaluates to a Boolean; the selected one of the two argument expressions is
handed over unevaluated (a tail return), the other one is never touched -/
theorem rule_call_bool (s : Store) (w : World) (h : Nat) (f x y : AST) (sp : Span) (env : Env)
    (b : Bool) (s1 : Store) (w1 : World) (hf : tagOf f = none)
    (hcallee : Eval (allocArgs (alloc s f env) env [x, y]).1 w (.frame s.cells.size) h
        (.ok (.arg (.strict (.bool b)))) s1 w1) :
    Eval s w (.comp (bodyOf (.call f [x, y] sp) env)) h
      (.ok (.arg (if b then .thunk (s.cells.size + 1) (tagOf x) else .thunk (s.cells.size + 2) (tagOf y)))) s1 w1 := by
  refine rule_call s w h f [x, y] sp env hf hcallee rfl rfl ?_
  simp only [expand, applyCallee, checkArity, allocArgs, alloc, Heap.size_push, List.length_cons, List.length_nil,
    List.contains_cons, List.contains_nil, Bind.bind, pure]
  cases b <;> exact .ret _ _ _ _

/-- call of a list: the function part evaluates to a list; the (single) argument is demanded and must be an integer;
the element at that position is handed over unevaluated (a tail return) — no other element is touched -/
theorem rule_call_list (s : Store) (w : World) (h : Nat) (f a : AST) (sp : Span) (env : Env)
    (xs : List Arg) (i : Int) (x : Arg) (s1 s2 : Store) (h2 : Nat) (hf : tagOf f = none)
    (hcallee : Eval (allocArgs (alloc s f env) env [a]).1 w (.frame s.cells.size) h
        (.ok (.arg (.strict (.list xs)))) s1 w)
    (harg : Forces s1 w (s.cells.size + 1) (.int i) h2 s2) (hh : h2 ≤ h)
    (hidx : pyIndex xs i = some x) :
    Eval s w (.comp (bodyOf (.call f [a] sp) env)) h (.ok (.arg x)) s2 w := by
  refine rule_call s w h f [a] sp env hf hcallee rfl rfl ?_
  simp only [expand, applyCallee, matchArguments, checkArity, forceAll, forceArg, allocArgs, alloc, Heap.size_push,
    List.length_cons, List.length_nil, List.contains_cons, List.contains_nil, Bind.bind, Comp.bind, pure]
  refine harg h hh _ _ _ _ _ ?_
  simp only [Comp.bind, checkType, Val.isInteger, List.all_cons, List.all_nil, Bool.and_true, if_true, hidx]
  exact .ret _ _ _ _

theorem expand_keyOf_int (s : Store) (w : World) (h : Nat) (x : Int) :
    Eval s w (.comp (expand (.keyOf (.int x)))) h (.ok (.key (Num.int x).key)) s w := by
  simp only [expand, keyOf, Bind.bind, Comp.bind, pure]
  exact .ret _ _ _ _

theorem int_key_beq (x y : Int) : ((Num.int x).key == (Num.int y).key) = (x == y) :=
  Bool.eq_iff_iff.mpr ((C06.int_keys x y).trans beq_iff_eq.symm)

theorem eval_equals_ints {s : Store} {w : World} {sp : Span} {t1 t2 : TId} {l1 l2 : Option Int} {x y : Int}
    {h1 h2 : Nat} {s1 s2 : Store} (f1 : Forces s w t1 (.int x) h1 s1) (f2 : Forces s1 w t2 (.int y) h2 s2)
    (h : Nat) (hh1 : h1 ≤ h) (hh2 : h2 ≤ h) :
    Eval s w (.comp ((bEquals sp [.thunk t1 l1, .thunk t2 l2]).bind (fun a => .ret (Res.arg a)))) h
      (.ok (.arg (.strict (.bool (x == y))))) s2 w := by
  simp only [bEquals, bEqualsGo, forceArg, callKey, Bind.bind, Comp.bind]
  refine f1 h hh1 _ _ _ _ _ ?_
  refine .callOk (expand_keyOf_int _ _ _ x) ?_
  simp only [Comp.bind]
  refine f2 h hh2 _ _ _ _ _ ?_
  refine .callOk (expand_keyOf_int _ _ _ y) ?_
  simp only [Comp.bind, int_key_beq]
  cases hxy : (x == y) <;> simp only [retV, Comp.bind, if_true, if_false, Bool.false_eq_true] <;> exact .ret _ _ _ _

/-- ㄷ: the first is demanded (to decide what kind of addition this is), then both in order -/
theorem eval_add_ints {s : Store} {w : World} {sp : Span} {t1 t2 : TId} {l1 l2 : Option Int} {x y : Int}
    {h1 h1' h2 : Nat} {s1 s1' s2 : Store} (f1 : Forces s w t1 (.int x) h1 s1) (f1' : Forces s1 w t1 (.int x) h1' s1')
    (f2 : Forces s1' w t2 (.int y) h2 s2) (h : Nat) (hh1 : h1 ≤ h) (hh1' : h1' ≤ h) (hh2 : h2 ≤ h) :
    Eval s w (.comp ((bAdd sp [.thunk t1 l1, .thunk t2 l2]).bind (fun a => .ret (Res.arg a)))) h
      (.ok (.arg (.strict (.int (x + y))))) s2 w := by
  simp only [bAdd, checkMinArity, forceArg, forceAll, List.length_cons, List.length_nil, Bind.bind, Comp.bind, pure]
  simp only [show ¬ (0 + 1 + 1 < 1) by omega, if_false, Comp.bind]  -- the minimum-arity check
  refine f1 h hh1 _ _ _ _ _ ?_
  simp only [checkType, Val.isNumber, Val.isBoolean, List.all_cons, List.all_nil, Bool.and_true, Bool.true_or, if_true,
    Comp.bind, Bool.false_eq_true, if_false]
  refine f1' h hh1' _ _ _ _ _ ?_
  simp only []  -- β-reduce the continuation `f1'` left
  refine f2 h hh2 _ _ _ _ _ ?_
  have hsum : (numsOf [Val.int x, Val.int y]).foldlM Num.add (Num.int 0) = (.ok (Num.int (x + y)) : NumM Num) := by
    have := C11.sum_ints [x, y] 0
    simpa [numsOf, Num.ofVal?] using this
  simp only [Comp.bind, if_true, Bool.and_self, hsum, liftNum, retV, Num.toVal]
  exact .ret _ _ _ _

theorem eval_mul_ints {s : Store} {w : World} {sp : Span} {t1 t2 : TId} {l1 l2 : Option Int} {x y : Int}
    {h1 h2 : Nat} {s1 s2 : Store} (f1 : Forces s w t1 (.int x) h1 s1) (f2 : Forces s1 w t2 (.int y) h2 s2)
    (h : Nat) (hh1 : h1 ≤ h) (hh2 : h2 ≤ h) :
    Eval s w (.comp ((bMultiply sp [.thunk t1 l1, .thunk t2 l2]).bind (fun a => .ret (Res.arg a)))) h
      (.ok (.arg (.strict (.int (x * y))))) s2 w := by
  simp only [bMultiply, checkMinArity, matchArguments, forceArg, forceAll, List.length_cons, List.length_nil, Bind.bind, Comp.bind, pure]
  simp only [show ¬ (0 + 1 + 1 < 1) by omega, if_false, Comp.bind]  -- the minimum-arity check
  refine f1 h hh1 _ _ _ _ _ ?_
  simp only [checkType, Val.isNumber, Val.isBoolean, List.all_cons, List.all_nil, Bool.and_true, Bool.true_or, if_true,
    Comp.bind, Bool.false_eq_true, if_false]
  refine f2 h hh2 _ _ _ _ _ ?_
  have hprod : (numsOf [Val.int y]).foldlM Num.mul (Num.int x) = (.ok (Num.int (x * y)) : NumM Num) := by
    have := C11.prod_ints [y] x
    simpa [numsOf, Num.ofVal?] using this
  simp only [Comp.bind, if_true, Num.ofVal?, hprod, liftNum, retV, Num.toVal]
  exact .ret _ _ _ _

theorem eval_lt_ints {s : Store} {w : World} {sp : Span} {t1 t2 : TId} {l1 l2 : Option Int} {x y : Int}
    {h1 h2 : Nat} {s1 s2 : Store} (f1 : Forces s w t1 (.int x) h1 s1) (f2 : Forces s1 w t2 (.int y) h2 s2)
    (h : Nat) (hh1 : h1 ≤ h) (hh2 : h2 ≤ h) :
    Eval s w (.comp ((bLessThan sp [.thunk t1 l1, .thunk t2 l2]).bind (fun a => .ret (Res.arg a)))) h
      (.ok (.arg (.strict (.bool (decide (x < y)))))) s2 w := by
  simp only [bLessThan, matchArguments, checkArity, forceArg, forceAll, List.length_cons, List.length_nil, List.contains_cons,
    List.contains_nil, Bind.bind, Comp.bind, pure]
  refine f1 h hh1 _ _ _ _ _ ?_
  simp only [Comp.bind]
  refine f2 h hh2 _ _ _ _ _ ?_
  simp only [Comp.bind, checkType, Val.isReal, List.all_cons, List.all_nil, Bool.and_self, if_true, List.map_cons,
    List.map_nil, Num.ofVal?, retV]
  rw [C11.lt_int]
  exact .ret _ _ _ _

theorem eval_rem_ints {s : Store} {w : World} {sp : Span} {t1 t2 : TId} {l1 l2 : Option Int} {x y : Int}
    {h1 h2 : Nat} {s1 s2 : Store} (f1 : Forces s w t1 (.int x) h1 s1) (f2 : Forces s1 w t2 (.int y) h2 s2)
    (hy : y ≠ 0) (h : Nat) (hh1 : h1 ≤ h) (hh2 : h2 ≤ h) :
    Eval s w (.comp ((bRemainder sp [.thunk t1 l1, .thunk t2 l2]).bind (fun a => .ret (Res.arg a)))) h
      (.ok (.arg (.strict (.int (Int.tmod x y))))) s2 w := by
  simp only [bRemainder, matchArguments, checkArity, forceArg, forceAll, List.length_cons, List.length_nil, List.contains_cons,
    List.contains_nil, Bind.bind, Comp.bind, pure]
  refine f1 h hh1 _ _ _ _ _ ?_
  simp only [Comp.bind]
  refine f2 h hh2 _ _ _ _ _ ?_
  simp only [Comp.bind, checkType, Val.isReal, List.all_cons, List.all_nil, Bool.and_self, if_true, hy, if_false, retV]
  rw [C11.intRem_eq_tmod x y hy]
  exact .ret _ _ _ _

/-- `P` is the caller's invariant: adequacy instantiates it with "related to the trees by `Inv`, and an extension of the store
of the call", so that a rule about a built-in can be used without the rule knowing `Inv`. -/
def Demand (P : Store → Prop) (w : World) (t : TId) (v : Val) : Prop :=
  ∀ s, P s → ∃ h s', Forces s w t v h s' ∧ P s'

/-- the built-in `b`, given two delayed expressions that deliver the integers `x` and `y` whenever demanded, returns `v` -/
def Strict2 (b : Builtin) (x y : Int) (v : Val) : Prop :=
  ∀ (P : Store → Prop) (w : World) (sp : Span) (t1 t2 : TId) (l1 l2 : Option Int),
    Demand P w t1 (.int x) → Demand P w t2 (.int y) → ∀ s, P s →
    ∃ h s', Eval s w (.comp ((b sp [.thunk t1 l1, .thunk t2 l2]).bind (fun a => .ret (Res.arg a)))) h
      (.ok (.arg (.strict v))) s' w ∧ P s'

/-- the usual case: each argument is demanded once, the first first -/
theorem Strict2.of_forces {b : Builtin} {x y : Int} {v : Val}
    (rule : ∀ {s : Store} {w : World} {sp : Span} {t1 t2 : TId} {l1 l2 : Option Int} {h1 h2 : Nat} {s1 s2 : Store},
      Forces s w t1 (.int x) h1 s1 → Forces s1 w t2 (.int y) h2 s2 → ∀ h, h1 ≤ h → h2 ≤ h →
      Eval s w (.comp ((b sp [.thunk t1 l1, .thunk t2 l2]).bind (fun a => .ret (Res.arg a)))) h
        (.ok (.arg (.strict v))) s2 w) : Strict2 b x y v := by
  intro P w sp t1 t2 l1 l2 d1 d2 s hs
  obtain ⟨k1, s1, f1, hs1⟩ := d1 s hs
  obtain ⟨k2, s2, f2, hs2⟩ := d2 s1 hs1
  exact ⟨_, s2, rule f1 f2 _ (Nat.le_max_left _ _) (Nat.le_max_right _ _), hs2⟩

theorem strict2_equals (x y : Int) : Strict2 bEquals x y (.bool (x == y)) := .of_forces eval_equals_ints

theorem strict2_mul (x y : Int) : Strict2 bMultiply x y (.int (x * y)) := .of_forces eval_mul_ints

theorem strict2_lt (x y : Int) : Strict2 bLessThan x y (.bool (decide (x < y))) := .of_forces eval_lt_ints

theorem strict2_rem (x : Int) {y : Int} (hy : y ≠ 0) : Strict2 bRemainder x y (.int (Int.tmod x y)) :=
  .of_forces fun f1 f2 => eval_rem_ints f1 f2 hy

theorem strict2_add (x y : Int) : Strict2 bAdd x y (.int (x + y)) := by
  intro P w sp t1 t2 l1 l2 d1 d2 s hs
  obtain ⟨k1, s1, f1, hs1⟩ := d1 s hs
  obtain ⟨k1', s1', f1', hs1'⟩ := d1 s1 hs1
  obtain ⟨k2, s2, f2, hs2⟩ := d2 s1' hs1'
  exact ⟨max (max k1 k1') k2, s2, eval_add_ints f1 f1' f2 _ (by omega) (by omega) (by omega), hs2⟩

theorem eval_len_list {s : Store} {w : World} {sp : Span} {t1 : TId} {l1 : Option Int} {xs : List Arg}
    {h1 : Nat} {s1 : Store} (f1 : Forces s w t1 (.list xs) h1 s1) (h : Nat) (hh1 : h1 ≤ h) :
    Eval s w (.comp ((bLen sp [.thunk t1 l1]).bind (fun a => .ret (Res.arg a)))) h
      (.ok (.arg (.strict (.int xs.length)))) s1 w := by
  simp only [bLen, matchArguments, checkArity, forceAll, forceArg, List.length_cons, List.length_nil, List.contains_cons,
    List.contains_nil, Bind.bind, Comp.bind, pure]
  refine f1 h hh1 _ _ _ _ _ ?_
  simp only [Comp.bind, checkType, Val.isSequence, Val.isList, List.all_cons, List.all_nil, Bool.and_true, Bool.true_or,
    if_true, retV, seqLen]
  exact .ret _ _ _ _

theorem eval_true (s : Store) (w : World) (sp : Span) (h : Nat) :
    Eval s w (.comp ((bTrue sp []).bind (fun a => .ret (Res.arg a)))) h (.ok (.arg (.strict (.bool true)))) s w := by
  simp only [bTrue, checkArity, retV, List.length_nil, List.contains_cons, List.contains_nil, Bind.bind]
  exact .ret _ _ _ _

theorem eval_false (s : Store) (w : World) (sp : Span) (h : Nat) :
    Eval s w (.comp ((bFalse sp []).bind (fun a => .ret (Res.arg a)))) h (.ok (.arg (.strict (.bool false)))) s w := by
  simp only [bFalse, checkArity, retV, List.length_nil, List.contains_cons, List.contains_nil, Bind.bind]
  exact .ret _ _ _ _

end UH.BigStep
