/-
More consequences of the big-step semantics: the sequencing rule (`Eval.bind`) and `try … except` inside a coroutine (C10);
evaluation "to a value of any type" in continuation-passing form (`EvalTo`), and with it the execution of I/O actions (C07).
-/
import UH.Proofs.NatSem
namespace UH.BigStep
open UH Comp

theorem Eval.bind {s w c h x s1 w1 k r s' w'} (hc : Eval s w (.comp c) h (.ok x) s1 w1)
    (hk : Eval s1 w1 (.comp (k x)) h r s' w') : Eval s w (.comp (c.bind k)) h r s' w' :=
  hc.ctx (.bind k) hk

theorem Eval.bind_raises {s w c h e s1 w1} (k : Res → Comp Res) (hc : Eval s w (.comp c) h (.error e) s1 w1) :
    Eval s w (.comp (c.bind k)) h (.error e) s1 w1 :=
  hc.ctx (.bind k) (.throw _ _ _ _)

theorem Eval.tryCatch_ok {s w c h x s1 w1} (hd : ErrV → Comp Res) (hc : Eval s w (.comp c) h (.ok x) s1 w1) :
    Eval s w (.comp (c.tryCatch hd)) h (.ok x) s1 w1 := hc.ctx (.tryCatch hd) (.ret _ _ _ _)

theorem Eval.tryCatch_raises {s w c h e s1 w1 hd r s' w'} (hc : Eval s w (.comp c) h (.error e) s1 w1)
    (hh : Eval s1 w1 (.comp (hd e)) h r s' w') : Eval s w (.comp (c.tryCatch hd)) h r s' w' :=
  hc.ctx (.tryCatch hd) hh

/-- `c` evaluates to `x` (taking `s, w` to `s1, w1`): whatever follows, the whole evaluates as the rest does on `x` -/
def EvalTo {α : Type} (s : Store) (w : World) (c : Comp α) (h : Nat) (x : α) (s1 : Store) (w1 : World) : Prop :=
  ∀ (k : α → Comp Res) r s' w', Eval s1 w1 (.comp (k x)) h r s' w' → Eval s w (.comp (c.bind k)) h r s' w'

/-- `c` raises `e`: whatever follows is skipped -/
def Raises {α : Type} (s : Store) (w : World) (c : Comp α) (h : Nat) (e : ErrV) (s1 : Store) (w1 : World) : Prop :=
  ∀ (k : α → Comp Res), Eval s w (.comp (c.bind k)) h (.error e) s1 w1

theorem EvalTo.ret {α} (s : Store) (w : World) (h : Nat) (x : α) : EvalTo s w (Comp.ret x) h x s w :=
  fun _ _ _ _ hk => hk

theorem Raises.throw {α} (s : Store) (w : World) (h : Nat) (e : ErrV) : Raises s w (Comp.throw e : Comp α) h e s w :=
  fun _ => .throw _ _ _ _

theorem EvalTo.bind {α β} {s w h s1 w1 s2 w2} {c : Comp α} {f : α → Comp β} {x : α} {y : β}
    (hc : EvalTo s w c h x s1 w1) (hf : EvalTo s1 w1 (f x) h y s2 w2) : EvalTo s w (c.bind f) h y s2 w2 := by
  intro k r s' w' hk
  rw [Comp.bind_assoc]
  exact hc _ r s' w' (hf k r s' w' hk)

theorem Raises.bind_left {α β} {s w h s1 w1} {c : Comp α} (f : α → Comp β) {e : ErrV}
    (hc : Raises s w c h e s1 w1) : Raises s w (c.bind f) h e s1 w1 := by
  intro k
  rw [Comp.bind_assoc]
  exact hc _

theorem Raises.bind_right {α β} {s w h s1 w1 s2 w2} {c : Comp α} {f : α → Comp β} {x : α} {e : ErrV}
    (hc : EvalTo s w c h x s1 w1) (hf : Raises s1 w1 (f x) h e s2 w2) : Raises s w (c.bind f) h e s2 w2 := by
  intro k
  rw [Comp.bind_assoc]
  exact hc _ _ _ _ (hf k)

theorem EvalTo.toEval {α} {s w h s1 w1} {c : Comp α} {x : α} (hc : EvalTo s w c h x s1 w1) (f : α → Res) :
    Eval s w (.comp (c.bind (fun a => .ret (f a)))) h (.ok (f x)) s1 w1 :=
  hc _ _ _ _ (.ret _ _ _ _)

theorem EvalTo.ofEval {s w h s1 w1} {c : Comp Res} {x : Res} (hc : Eval s w (.comp c) h (.ok x) s1 w1) :
    EvalTo s w c h x s1 w1 := fun _ _ _ _ hk => hc.bind hk

theorem Raises.ofEval {s w h s1 w1} {c : Comp Res} {e : ErrV} (hc : Eval s w (.comp c) h (.error e) s1 w1) :
    Raises s w c h e s1 w1 := fun k => hc.bind_raises k

theorem EvalTo.forceMemo {s : Store} (w : World) (h : Nat) {t : TId} (lit : Option Int) {v : Val}
    (hv : (s.getCell t).value = some (.ok v)) : EvalTo s w (forceArg (.thunk t lit)) h v s w := by
  intro k r s' w' hk
  simp only [forceArg, Comp.bind]
  exact .forceOk hv hk

theorem EvalTo.forceEval {s : Store} {w : World} {h : Nat} {t : TId} (lit : Option Int) {v : Val} {s1 w1}
    (hn : (s.getCell t).value = none) (hf : Eval s w (.frame t) h (.ok (.arg (.strict v))) s1 w1) :
    EvalTo s w (forceArg (.thunk t lit)) h v s1 w1 := by
  intro k r s' w' hk
  simp only [forceArg, Comp.bind]
  exact .forceEvalOk hn hf hk

theorem Raises.forceEval {s : Store} {w : World} {h : Nat} {t : TId} (lit : Option Int) {e : ErrV} {s1 w1}
    (hn : (s.getCell t).value = none) (hf : Eval s w (.frame t) h (.error e) s1 w1) :
    Raises s w (forceArg (.thunk t lit)) h e s1 w1 := by
  intro k
  simp only [forceArg, Comp.bind]
  exact .forceEvalErr hn hf (.throw _ _ _ _)

theorem EvalTo.callArg {s w h s1 w1} {op : Op} {a : Arg} (hc : Eval s w (.comp (expand op)) h (.ok (.arg a)) s1 w1) :
    EvalTo s w (Comp.callArg op) h a s1 w1 := by
  intro k r s' w' hk
  simp only [Comp.callArg, Comp.bind]
  exact .callOk hc hk

theorem Raises.callArg {s w h s1 w1} {op : Op} {e : ErrV} (hc : Eval s w (.comp (expand op)) h (.error e) s1 w1) :
    Raises s w (Comp.callArg op) h e s1 w1 := by
  intro k
  simp only [Comp.callArg, Comp.bind]
  exact .callErr hc (.throw _ _ _ _)

theorem EvalTo.world {s w h s1 w1} {op : WOp} {a : Arg} (hd : doWorld s w op = (s1, w1, .ok a)) :
    EvalTo s w (Comp.worldArg op) h a s1 w1 := by
  intro k r s' w' hk
  simp only [Comp.worldArg, Comp.bind]
  exact .worldOk hd hk

theorem Raises.world {s w h s1 w1} {op : WOp} {e : ErrV} (hd : doWorld s w op = (s1, w1, .err e)) :
    Raises s w (Comp.worldArg op) h e s1 w1 := by
  intro k
  simp only [Comp.worldArg, Comp.bind]
  exact .worldErr hd (.throw _ _ _ _)

/-- executing the value `v` the way the front end does (`main.do_IO`) produces `a`, taking the store and the
world from `(s, w)` to `(s', w')` -/
def Exec (s : Store) (w : World) (v : Val) (h : Nat) (a : Arg) (s' : Store) (w' : World) : Prop :=
  EvalTo s w (doIO v) h a s' w'

theorem Exec.toEval {s w v h a s' w'} (hx : Exec s w v h a s' w') :
    Eval s w (.comp (expand (.doIO v))) h (.ok (.arg a)) s' w' :=
  EvalTo.toEval hx Res.arg

/-- a value that is not an action ends the loop: nothing happens -/
theorem exec_value (s : Store) (w : World) (h : Nat) (v : Val) (hv : v.isIO = false) : Exec s w v h (.strict v) s w := by
  unfold Exec
  cases v <;> first | exact EvalTo.ret _ _ _ _ | (simp [Val.isIO] at hv)

/-- the loop of `do_IO`: run the action's continuation, force what it produced, go on with that -/
theorem exec_step {s w h inst argv sp bnd a s1 w1 v' s2 w2 r s3 w3}
    (h1 : EvalTo s w (ioCont inst argv sp bnd) h a s1 w1)
    (h2 : EvalTo s1 w1 (forceArg a) h v' s2 w2)
    (h3 : Exec s2 w2 v' h r s3 w3) :
    Exec s w (.io inst argv sp bnd) h r s3 w3 := by
  unfold Exec
  simp only [doIO, Bind.bind]
  exact h1.bind (h2.bind (EvalTo.callArg h3.toEval))

theorem exec_step_strict {s w h inst argv sp bnd v s1 w1 r s2 w2}
    (h1 : EvalTo s w (ioCont inst argv sp bnd) h (.strict v) s1 w1) (h2 : Exec s1 w1 v h r s2 w2) :
    Exec s w (.io inst argv sp bnd) h r s2 w2 :=
  exec_step h1 (EvalTo.ret _ _ _ _) h2

/-- ㅈㄹ writes its string and a newline — once — and yields the empty value -/
theorem exec_print (s : Store) (w : World) (h : Nat) (sp : Span) (str : String) :
    Exec s w (.io .print [.strict (.str str)] sp none) h (.strict .nil) s
      { w with stdout := ('\n' :: str.toList.reverse) ++ w.stdout } := by
  refine exec_step_strict ?_ (exec_value _ _ _ _ rfl)
  simp only [ioCont]
  exact EvalTo.world rfl

/-- ㄱㅅ performs nothing: executing it yields the (already fully evaluated, non-action) value it was given -/
theorem exec_return (s : Store) (w : World) (h : Nat) (sp : Span) (v : Val) (hv : v.isIO = false) :
    Exec s w (.io .ret [.strict v] sp none) h (.strict v) s w := by
  refine exec_step_strict ?_ (exec_value _ _ _ _ hv)
  simp only [ioCont]
  exact EvalTo.ret _ _ _ _

theorem checkCallee_of_isFunction (sp : Span) (f : Val) (h : f.isFunction = true) :
    checkCallee isBuiltinName sp f false = Comp.ret () := by
  cases f <;> simp_all [checkCallee, Val.isFunction]

/-- the second half of a ㄱㄹ step: the continuation (or the handler) is applied, its result demanded, and it must be
an action -/
theorem evalTo_applyIO {s1 w1 h sp} {f : Val} {x : Arg} {r s2 w2 rv s3 w3}
    (hcc : checkCallee isBuiltinName sp f false = Comp.ret ())
    (h2 : Eval s1 w1 (.comp (expand (Op.apply f sp [x]))) h (.ok (.arg r)) s2 w2)
    (h3 : EvalTo s2 w2 (forceArg r) h rv s3 w3) (hio : rv.isIO = true) :
    EvalTo s1 w1 (do
      checkCallee isBuiltinName sp f false
      let r ← callArg (Op.apply f sp [x])
      let rv ← forceArg r
      checkType sp [rv] Val.isIO
      retV rv) h (.strict rv) s3 w3 := by
  intro k r' s' w' hk
  simp only [hcc, Bind.bind, Comp.bind]
  rw [Comp.bind_assoc]
  refine (EvalTo.callArg h2) _ _ _ _ ?_
  rw [Comp.bind_assoc]
  refine h3 _ _ _ _ ?_
  simp only [checkType, hio, List.all_cons, List.all_nil, Bool.and_true, if_true, Comp.bind, retV]
  exact hk

/-- ㄱㄹ, bind order.  Executing `io0 ㄱㄹ f`, for any continuation `f` the callee check accepts (a function, or the
name of a built-in): first `io0` is executed (world `w → w1`), producing `a`; then `f` is applied to exactly `a` and
its result evaluated to an action `rv` (`w1 → w3`: evaluation may import modules, it performs no other I/O); then
that action is executed (`w3 → w4`).  The world is threaded in this order and in no other. -/
theorem exec_bind_cc {s w h argv sp io0 f a s1 w1 r s2 w2 rv s3 w3 res s4 w4}
    (hcc : checkCallee isBuiltinName sp f false = Comp.ret ())
    (h1 : Exec s w io0 h a s1 w1)
    (h2 : Eval s1 w1 (.comp (expand (.apply f sp [a]))) h (.ok (.arg r)) s2 w2)
    (h3 : EvalTo s2 w2 (forceArg r) h rv s3 w3)
    (hio : rv.isIO = true)
    (h4 : Exec s3 w3 rv h res s4 w4) :
    Exec s w (.io .bind argv sp (some (io0, f, none))) h res s4 w4 := by
  refine exec_step_strict ?_ h4
  intro k r' s' w' hk
  simp only [ioCont, Comp.bind]
  exact .callOk h1.toEval (evalTo_applyIO hcc h2 h3 hio k r' s' w' hk)

end UH.BigStep
