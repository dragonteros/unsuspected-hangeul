/-
A big-step (natural) semantics of the evaluator, generic in the coroutines, and its soundness
with respect to the micro-step machine.

`Eval s w task h r s' w'` : started in store `s` and world `w`, the task — a coroutine running
inside some frame (`.comp c`), or a whole frame evaluating the delayed expression `t`
(`.frame t`) — ends with `r` in store `s'` and world `w'`, and needs at most `h` evaluator frames
above the frames that already exist.  The rules are the ones a reader of `interpret.evaluate`
would write down.

`Eval.sound` : every derivation is realised by the machine (`step`, `runN`), whatever frames lie
below, as long as `h` more frames fit under `MAX_STACK_SIZE`.  All results are stated up to the
observer's bookkeeping (`C19.forget`), which the evaluator never reads (`C19.runN_forget`).
-/
import UH.Model.EvalF
import UH.Properties.C19
namespace UH.BigStep
open UH Unforced C19

theorem runN_add (a b : Nat) (m : MState) : runN (a + b) m = runN b (runN a m) := by
  induction a generalizing m with
  | zero => simp [runN]
  | succ a ih =>
    rw [Nat.succ_add]
    by_cases hs : m.status = .running
    · rw [runN_succ_running _ m hs, runN_succ_running _ m hs]; exact ih _
    · rw [runN_not_running _ m hs, runN_not_running _ m hs, runN_not_running b m hs]

def Reaches (m m' : MState) : Prop := ∃ n, forget (runN n m) = forget m'

theorem Reaches.of_forget {m m' : MState} (h : forget m = forget m') : Reaches m m' := ⟨0, h⟩

theorem Reaches.trans {a b c : MState} (h1 : Reaches a b) (h2 : Reaches b c) : Reaches a c := by
  obtain ⟨n1, e1⟩ := h1
  obtain ⟨n2, e2⟩ := h2
  refine ⟨n1 + n2, ?_⟩
  rw [runN_add, runN_forget, e1, ← runN_forget, e2]

theorem Reaches.congr_right {a b b' : MState} (h : Reaches a b) (e : forget b = forget b') : Reaches a b' := by
  obtain ⟨n, hn⟩ := h
  exact ⟨n, hn.trans e⟩

theorem Reaches.step {m m' : MState} (hrun : m.status = .running) (h : Reaches (UH.step m) m') : Reaches m m' := by
  obtain ⟨n, e⟩ := h
  refine ⟨n + 1, ?_⟩
  simp only [runN, hrun]
  exact e

inductive Eval : Store → World → Task → Nat → Except ErrV Res → Store → World → Prop
  | ret (s w h r) : Eval s w (.comp (.ret r)) h (.ok r) s w
  | throw (s w h e) : Eval s w (.comp (.throw e)) h (.error e) s w
  | forceOk {s w h t k ke v r s' w'} : (s.getCell t).value = some (.ok v) →
      Eval s w (.comp (k v)) h r s' w' → Eval s w (.comp (.force t k ke)) h r s' w'
  | forceErr {s w h t k ke e r s' w'} : (s.getCell t).value = some (.error e) →
      Eval s w (.comp (ke e)) h r s' w' → Eval s w (.comp (.force t k ke)) h r s' w'
  | forceEvalOk {s w h t k ke v s1 w1 r s' w'} : (s.getCell t).value = none →
      Eval s w (.frame t) h (.ok (.arg (.strict v))) s1 w1 →
      Eval s1 w1 (.comp (k v)) h r s' w' → Eval s w (.comp (.force t k ke)) h r s' w'
  | forceEvalErr {s w h t k ke e s1 w1 r s' w'} : (s.getCell t).value = none →
      Eval s w (.frame t) h (.error e) s1 w1 →
      Eval s1 w1 (.comp (ke e)) h r s' w' → Eval s w (.comp (.force t k ke)) h r s' w'
  | newThunk {s w h e env k r s' w'} :
      Eval { s with cells := s.cells.push { expr := e, env := env } } w (.comp (k s.cells.size)) h r s' w' →
      Eval s w (.comp (.newThunk e env k)) h r s' w'
  | newFn {s w h mk k r s' w'} :
      Eval { s with fns := s.fns.push (mk s.fns.size) } w (.comp (k s.fns.size)) h r s' w' →
      Eval s w (.comp (.newFn mk k)) h r s' w'
  | getFn {s w h id o k r s' w'} : s.fns.get? id = some o →
      Eval s w (.comp (k o)) h r s' w' → Eval s w (.comp (.getFn id k)) h r s' w'
  /-- `yield from`: the sub-coroutine runs to its end, then the caller goes on -/
  | callOk {s w h op k ke x s1 w1 r s' w'} : Eval s w (.comp (expand op)) h (.ok x) s1 w1 →
      Eval s1 w1 (.comp (k x)) h r s' w' → Eval s w (.comp (.call op k ke)) h r s' w'
  | callErr {s w h op k ke e s1 w1 r s' w'} : Eval s w (.comp (expand op)) h (.error e) s1 w1 →
      Eval s1 w1 (.comp (ke e)) h r s' w' → Eval s w (.comp (.call op k ke)) h r s' w'
  | worldOk {s w h op k ke a s1 w1 r s' w'} : doWorld s w op = (s1, w1, .ok a) →
      Eval s1 w1 (.comp (k a)) h r s' w' → Eval s w (.comp (.world op k ke)) h r s' w'
  | worldErr {s w h op k ke e s1 w1 r s' w'} : doWorld s w op = (s1, w1, .err e) →
      Eval s1 w1 (.comp (ke e)) h r s' w' → Eval s w (.comp (.world op k ke)) h r s' w'
  | frameVal {s w h t v s1 w1} : Eval s w (.comp (newFrame s t).cur) h (.ok (.arg (.strict v))) s1 w1 →
      Eval s w (.frame t) (h + 1) (.ok (.arg (.strict v))) (s1.resolve (s1.cells.size + 1) t (.ok v)) w1
  | frameErr {s w h t e s1 w1} : Eval s w (.comp (newFrame s t).cur) h (.error e) s1 w1 →
      Eval s w (.frame t) (h + 1) (.error e) (s1.resolve (s1.cells.size + 1) t (.error e)) w1
  /-- tail return: the coroutine ends with a delayed expression `t'`; the frame is replaced by a
  frame for `t'` (which remembers `t` as its requestor) — no height is consumed -/
  | frameTail {s w h t t' lit s1 w1 r s' w'} :
      Eval s w (.comp (newFrame s t).cur) h (.ok (.arg (.thunk t' lit))) s1 w1 →
      Eval (setRequestor s1 t' (some t)) w1 (.frame t') (h + 1) r s' w' →
      Eval s w (.frame t) (h + 1) r s' w'

/-- `M` with its active frame replaced by `f'`, in store `s` and world `w`: the form of every state inside a run -/
def upd (M : MState) (isHead : Bool) (rest : List Frame) (f' : Frame) (s : Store) (w : World) : MState :=
  put isHead rest f' { M with store := s, world := w }

theorem active_upd {M : MState} {f : Frame} {rest : List Frame} {isHead : Bool}
    (h : active M = (f, rest, isHead)) (f' : Frame) (s : Store) (w : World) :
    active (upd M isHead rest f' s w) = (f', rest, isHead) := by
  cases isHead with
  | true =>
    obtain ⟨ht, _, hr⟩ := active_head h
    simp [upd, put, active, ht, hr]
  | false => simp [upd, put, active]

@[simp] theorem upd_status (M : MState) (b : Bool) (rest f' s w) : (upd M b rest f' s w).status = M.status := by
  cases b <;> rfl
@[simp] theorem upd_resp (M : MState) (b : Bool) (rest f' s w) : (upd M b rest f' s w).resp = M.resp := by
  cases b <;> rfl
@[simp] theorem upd_store (M : MState) (b : Bool) (rest f' s w) : (upd M b rest f' s w).store = s := by
  cases b <;> rfl
@[simp] theorem upd_world (M : MState) (b : Bool) (rest f' s w) : (upd M b rest f' s w).world = w := by
  cases b <;> rfl

theorem upd_tail_length {M : MState} {f : Frame} {rest : List Frame} {isHead : Bool}
    (h : active M = (f, rest, isHead)) (f' : Frame) (s : Store) (w : World) :
    (upd M isHead rest f' s w).tail.length = M.tail.length := by
  simpa [upd, put_eq] using put_tail_length h f'

theorem upd_upd (M : MState) (b : Bool) (rest f' f'' s w s' w') :
    upd (upd M b rest f' s w) b rest f'' s' w' = upd M b rest f'' s' w' := by
  cases b <;> rfl

theorem upd_self {M : MState} {f : Frame} {rest : List Frame} {isHead : Bool}
    (h : active M = (f, rest, isHead)) : upd M isHead rest f M.store M.world = M := by
  cases isHead with
  | true =>
    obtain ⟨_, hh, _⟩ := active_head h
    simp only [upd, put, if_true]; rw [← hh]
  | false =>
    have ht := active_tail h
    simp only [upd, put, Bool.false_eq_true, if_false]; rw [← ht]

/-- the current coroutine of a finished task -/
def resCur : Except ErrV Res → Comp Res
  | .ok r => .ret r
  | .error e => .throw e

/-- what a frame hands to the frame below -/
def frameOut : Except ErrV Res → Outcome
  | .ok (.arg (.strict v)) => .ok v
  | .ok _ => .error default
  | .error e => .error e

/-! The sixteen constructors are six rules: a finished coroutine (`Eval.done`), an instruction that needs no frame
(`Eval.instr`), a demand that needs one (`Eval.demand`), a sub-coroutine (`Eval.call`), a frame that ends with an
outcome (`Eval.frameEnd`) or with a delayed expression (`Eval.frameTail`).  `Eval.induct` is induction with one case
for each. -/

def pick {α β : Type} (k : α → β) (ke : ErrV → β) : Except ErrV α → β
  | .ok a => k a
  | .error e => ke e

/-- what a frame that ends with the outcome `o` returns -/
def outRes : Outcome → Except ErrV Res
  | .ok v => .ok (.arg (.strict v))
  | .error e => .error e

/-- `c` in `(s, w)` goes on as `c'` in `(s', w')` -/
inductive Instr : Store → World → Comp Res → Store → World → Comp Res → Prop
  | served {s w t k ke o} : (s.getCell t).value = some o → Instr s w (.force t k ke) s w (pick k ke o)
  | newThunk {s w e env k} :
      Instr s w (.newThunk e env k) { s with cells := s.cells.push { expr := e, env := env } } w (k s.cells.size)
  | newFn {s w mk k} : Instr s w (.newFn mk k) { s with fns := s.fns.push (mk s.fns.size) } w (k s.fns.size)
  | getFn {s w id o k} : s.fns.get? id = some o → Instr s w (.getFn id k) s w (k o)
  | worldOk {s w op k ke a s1 w1} : doWorld s w op = (s1, w1, .ok a) → Instr s w (.world op k ke) s1 w1 (k a)
  | worldErr {s w op k ke e s1 w1} : doWorld s w op = (s1, w1, .err e) → Instr s w (.world op k ke) s1 w1 (ke e)

theorem Eval.done (s w h r) : Eval s w (.comp (resCur r)) h r s w := by
  cases r with
  | ok r => exact .ret s w h r
  | error e => exact .throw s w h e

theorem Eval.instr {s w c s1 w1 c1 h r s' w'} (hi : Instr s w c s1 w1 c1) (hk : Eval s1 w1 (.comp c1) h r s' w') :
    Eval s w (.comp c) h r s' w' := by
  cases hi with
  | @served t k ke o hv => cases o with
    | ok v => exact .forceOk hv hk
    | error e => exact .forceErr hv hk
  | newThunk => exact .newThunk hk
  | newFn => exact .newFn hk
  | getFn hg => exact .getFn hg hk
  | worldOk hd => exact .worldOk hd hk
  | worldErr hd => exact .worldErr hd hk

theorem Eval.demand {s w h t k ke s1 w1 r s' w'} (o : Outcome) (hv : (s.getCell t).value = none)
    (hf : Eval s w (.frame t) h (outRes o) s1 w1) (hk : Eval s1 w1 (.comp (pick k ke o)) h r s' w') :
    Eval s w (.comp (.force t k ke)) h r s' w' := by
  cases o with
  | ok v => exact .forceEvalOk hv hf hk
  | error e => exact .forceEvalErr hv hf hk

theorem Eval.call {s w h op k ke x s1 w1 r s' w'} (hc : Eval s w (.comp (expand op)) h x s1 w1)
    (hk : Eval s1 w1 (.comp (pick k ke x)) h r s' w') : Eval s w (.comp (.call op k ke)) h r s' w' := by
  cases x with
  | ok x => exact .callOk hc hk
  | error e => exact .callErr hc hk

theorem Eval.frameEnd {s w h t s1 w1} (o : Outcome) (hc : Eval s w (.comp (newFrame s t).cur) h (outRes o) s1 w1) :
    Eval s w (.frame t) (h + 1) (outRes o) (s1.resolve (s1.cells.size + 1) t o) w1 := by
  cases o with
  | ok v => exact .frameVal hc
  | error e => exact .frameErr hc

theorem Eval.induct {motive : ∀ s w task h r s' w', Eval s w task h r s' w' → Prop}
    (done : ∀ s w h r, motive _ _ _ _ _ _ _ (Eval.done s w h r))
    (instr : ∀ {s w c s1 w1 c1 h r s' w'} (hi : Instr s w c s1 w1 c1) (hk : Eval s1 w1 (.comp c1) h r s' w'),
      motive _ _ _ _ _ _ _ hk → motive _ _ _ _ _ _ _ (hk.instr hi))
    (demand : ∀ {s w h t k ke s1 w1 r s' w'} (o : Outcome) (hv : (s.getCell t).value = none)
      (hf : Eval s w (.frame t) h (outRes o) s1 w1) (hk : Eval s1 w1 (.comp (pick k ke o)) h r s' w'),
      motive _ _ _ _ _ _ _ hf → motive _ _ _ _ _ _ _ hk → motive _ _ _ _ _ _ _ (Eval.demand (k := k) (ke := ke) o hv hf hk))
    (call : ∀ {s w h op k ke x s1 w1 r s' w'} (hc : Eval s w (.comp (expand op)) h x s1 w1)
      (hk : Eval s1 w1 (.comp (pick k ke x)) h r s' w'),
      motive _ _ _ _ _ _ _ hc → motive _ _ _ _ _ _ _ hk → motive _ _ _ _ _ _ _ (Eval.call (k := k) (ke := ke) hc hk))
    (frameEnd : ∀ {s w h t s1 w1} (o : Outcome) (hc : Eval s w (.comp (newFrame s t).cur) h (outRes o) s1 w1),
      motive _ _ _ _ _ _ _ hc → motive _ _ _ _ _ _ _ (Eval.frameEnd (t := t) o hc))
    (frameTail : ∀ {s w h t t' lit s1 w1 r s' w'}
      (hc : Eval s w (.comp (newFrame s t).cur) h (.ok (.arg (.thunk t' lit))) s1 w1)
      (hf : Eval (setRequestor s1 t' (some t)) w1 (.frame t') (h + 1) r s' w'),
      motive _ _ _ _ _ _ _ hc → motive _ _ _ _ _ _ _ hf → motive _ _ _ _ _ _ _ (Eval.frameTail hc hf))
    {s w task h r s' w'} (hev : Eval s w task h r s' w') : motive s w task h r s' w' hev := by
  induction hev with
  | ret s w h r => exact done s w h (.ok r)
  | throw s w h e => exact done s w h (.error e)
  | forceOk hv hk ih => exact instr (.served (o := .ok _) hv) hk ih
  | forceErr hv hk ih => exact instr (.served (o := .error _) hv) hk ih
  | forceEvalOk hv hf hk ih1 ih2 => exact demand (.ok _) hv hf hk ih1 ih2
  | forceEvalErr hv hf hk ih1 ih2 => exact demand (.error _) hv hf hk ih1 ih2
  | newThunk hk ih => exact instr .newThunk hk ih
  | newFn hk ih => exact instr .newFn hk ih
  | getFn hg hk ih => exact instr (.getFn hg) hk ih
  | callOk hc hk ih1 ih2 => exact call (x := .ok _) hc hk ih1 ih2
  | callErr hc hk ih1 ih2 => exact call (x := .error _) hc hk ih1 ih2
  | worldOk hd hk ih => exact instr (.worldOk hd) hk ih
  | worldErr hd hk ih => exact instr (.worldErr hd) hk ih
  | frameVal hc ih => exact frameEnd (.ok _) hc ih
  | frameErr hc ih => exact frameEnd (.error _) hc ih
  | frameTail hc hf ih1 ih2 => exact frameTail hc hf ih1 ih2

theorem Eval.frame_pos {s w t h r s' w'} (hev : Eval s w (.frame t) h r s' w') : 0 < h := by
  cases hev <;> omega

/-- For a coroutine: the machine reaches the state in which the active frame (head or not, anything below it) holds the finished
coroutine.  For a frame: the state in which the frame is popped and its outcome is the pending response. -/
def Sound (s : Store) (w : World) (task : Task) (h : Nat) (r : Except ErrV Res) (s' : Store) (w' : World) : Prop :=
  match task with
  | .comp c => ∀ (M : MState) (f : Frame) (rest : List Frame) (isHead : Bool),
      M.status = .running → M.resp = none → active M = (f, rest, isHead) → f.cur = c →
      M.store = s → M.world = w → M.tail.length + h < maxStackSize →
      Reaches M (upd M isHead rest { f with cur := resCur r } s' w')
  | .frame t => ∀ (M : MState) (rest : List Frame), M.status = .running → M.resp = none →
      M.tail = newFrame s t :: rest → M.store = s → M.world = w → rest.length + h < maxStackSize →
      Reaches M { M with tail := rest, resp := some (frameOut r), store := s', world := w' }

theorem perform_cont {M : MState} (hresp : M.resp = none) (f : Frame) (rest : List Frame) (b : Bool) (f1 : Frame)
    (s1 : Store) (w1 : World) : perform M f rest b (.cont f1 s1 w1) = upd M b rest f1 s1 w1 := by
  -- `M` is taken apart so that `hresp` can be substituted: `perform` writes `resp := none`, which `M` has already
  obtain ⟨store, world, head, tail, resp, status, depth, dstack, events, starts⟩ := M
  cases hresp; rfl

/-- a step in which the active coroutine goes on in its own frame, followed by the rest of the run — from a state given in
`upd` form, as the states inside a run are -/
theorem comp_step {M : MState} {f : Frame} {rest : List Frame} {isHead : Bool} (F : Frame) (S : Store) (W : World)
    {f1 f2 : Frame} {s1 s' : Store} {w1 w' : World}
    (hrun : M.status = .running) (hresp : M.resp = none) (hact : active M = (f, rest, isHead))
    (hstep : react S W none F = .cont f1 s1 w1)
    (hrest : Reaches (upd M isHead rest f1 s1 w1) (upd M isHead rest f2 s' w')) :
    Reaches (upd M isHead rest F S W) (upd M isHead rest f2 s' w') := by
  apply Reaches.step (by simp [hrun])
  rwa [step_eq (by simp [hrun]) (active_upd hact F S W), upd_resp, hresp, upd_store, upd_world, hstep,
    perform_cont (by simp [hresp]), upd_upd]

/-- the induction hypothesis for `c`, used at a state inside a run -/
theorem Sound.apply_upd {c : Comp Res} {h : Nat} {r : Except ErrV Res} {s1 s' : Store} {w1 w' : World}
    (ih : Sound s1 w1 (.comp c) h r s' w') {M : MState} {f : Frame} {rest : List Frame} {isHead : Bool}
    (hrun : M.status = .running) (hresp : M.resp = none) (hact : active M = (f, rest, isHead))
    (F : Frame) (hF : F.cur = c) (hh : M.tail.length + h < maxStackSize) :
    Reaches (upd M isHead rest F s1 w1) (upd M isHead rest { F with cur := resCur r } s' w') := by
  have := ih (upd M isHead rest F s1 w1) F rest isHead (by simp [hrun]) (by simp [hresp]) (active_upd hact _ _ _) hF
    (by simp) (by simp) (by rw [upd_tail_length hact]; exact hh)
  rwa [upd_upd] at this

theorem Sound.cont {s w s1 w1 s' w'} {c c' : Comp Res} {h : Nat} {r : Except ErrV Res}
    (hstep : ∀ f : Frame, f.cur = c → react s w none f = .cont { f with cur := c' } s1 w1)
    (ih : Sound s1 w1 (.comp c') h r s' w') : Sound s w (.comp c) h r s' w' := by
  intro M f rest isHead hrun hresp hact hcur hs hw hh
  subst hs hw
  have := comp_step f _ _ hrun hresp hact (hstep f hcur) (ih.apply_upd hrun hresp hact _ rfl hh)
  rwa [upd_self hact] at this

theorem step_force_push {M : MState} {f : Frame} {rest : List Frame} {isHead : Bool} {t k ke}
    (hrun : M.status = .running) (hresp : M.resp = none) (hact : active M = (f, rest, isHead))
    (hcur : f.cur = .force t k ke) (hval : (M.store.getCell t).value = none)
    (hh : M.tail.length + 1 < maxStackSize) :
    UH.step M = { M with tail := newFrame M.store t :: M.tail, depth := M.depth + 1, dstack := [t] :: M.dstack,
                         events := Event.before (M.depth + 1) t :: M.events, starts := t :: M.starts } := by
  rw [step_eq hrun hact]
  simp only [hresp, react, hcur, hval, perform, pushFrame]
  rw [if_neg (by omega)]

theorem step_deliver {M : MState} {f : Frame} {rest : List Frame} {isHead : Bool} {t k ke} (o : Outcome)
    (s1 : Store) (w1 : World) (hrun : M.status = .running) (hresp : M.resp = none)
    (hact : active M = (f, rest, isHead)) (hcur : f.cur = .force t k ke) :
    UH.step { M with resp := some o, store := s1, world := w1 } =
      upd M isHead rest { f with cur := pick k ke o } s1 w1 := by
  rw [step_eq (m := { M with resp := some o, store := s1, world := w1 }) hrun hact]
  obtain ⟨store, world, head, tail, resp, status, depth, dstack, events, starts⟩ := M
  cases hresp
  cases o <;> simp only [react, hcur, perform, upd, pick]

theorem active_congr {M M' : MState} (ht : M'.tail = M.tail) (hh : M'.head = M.head) : active M' = active M := by
  unfold active; rw [ht, hh]

theorem step_finished {M : MState} {f : Frame} {rest : List Frame} {isHead : Bool}
    (hrun : M.status = .running) (hresp : M.resp = none) (hact : active M = (f, rest, isHead))
    (F : Frame) (hk : F.konts = []) (r : Except ErrV Res) (S : Store) (W : World) :
    UH.step (upd M isHead rest { F with cur := resCur r } S W) =
      perform (upd M isHead rest { F with cur := resCur r } S W) { F with cur := resCur r } rest isHead (.finish r) := by
  rw [step_eq (by simp [hrun]) (active_upd hact _ _ _), upd_resp, hresp]
  cases r <;> simp only [react, resCur, hk]

theorem maxStack_pos : 0 < maxStackSize := by decide

theorem frameOut_outRes (o : Outcome) : frameOut (outRes o) = o := by
  cases o <;> rfl

theorem Instr.react {s w c s1 w1 c1} (hi : Instr s w c s1 w1 c1) (f : Frame) (hcur : f.cur = c) :
    react s w none f = .cont { f with cur := c1 } s1 w1 := by
  cases hi with
  | @served t k ke o hv => cases o <;> simp only [UH.react, hcur, hv, pick]
  | newThunk => simp only [UH.react, hcur]
  | newFn => simp only [UH.react, hcur]
  | getFn hg => simp only [UH.react, hcur, hg]
  | worldOk hd => simp only [UH.react, hcur, hd]
  | worldErr hd => simp only [UH.react, hcur, hd]

theorem Sound.frame {s w t h r s1 w1} (ih : Sound s w (.comp (newFrame s t).cur) h r s1 w1) {M M' : MState}
    {rest : List Frame} (hrun : M.status = .running) (hresp : M.resp = none) (htail : M.tail = newFrame s t :: rest)
    (hs : M.store = s) (hw : M.world = w) (hh : rest.length + (h + 1) < maxStackSize)
    (hnext : Reaches (perform (upd M false rest { newFrame s t with cur := resCur r } s1 w1)
      { newFrame s t with cur := resCur r } rest false (.finish r)) M') : Reaches M M' := by
  have hact : active M = (newFrame s t, rest, false) := by simp [active, htail]
  refine Reaches.trans (ih M _ rest false hrun hresp hact rfl hs hw (by rw [htail, List.length_cons]; omega)) ?_
  refine Reaches.step (by simp [hrun]) ?_
  rwa [step_finished hrun hresp hact _ rfl]

theorem Eval.sound {s w task h r s' w'} (hev : Eval s w task h r s' w') : Sound s w task h r s' w' := by
  induction hev using Eval.induct with
  | done s w h r =>
    intro M f rest isHead hrun hresp hact hcur hs hw hh
    subst hs hw
    have : ({ f with cur := resCur r } : Frame) = f := by rw [← hcur]
    rw [this, upd_self hact]; exact .of_forget rfl
  | instr hi _ ih => exact .cont hi.react ih
  | @demand s w h t k ke s1 w1 r s' w' o hval hfr _ ihF ihC =>
    intro M f rest isHead hrun hresp hact hcur hs hw hh
    subst hs hw
    have hpos := hfr.frame_pos
    apply Reaches.step hrun
    rw [step_force_push hrun hresp hact hcur hval (by omega)]
    refine Reaches.trans (ihF _ M.tail hrun hresp rfl rfl rfl hh) ?_
    rw [frameOut_outRes]
    -- the frame is gone: the machine is `M` again, with the outcome as its pending response
    let M1 : MState := { M with resp := some o, store := s1, world := w1 }
    refine Reaches.trans (Reaches.of_forget (m' := M1) rfl) (Reaches.step (m := M1) hrun ?_)
    rw [step_deliver o s1 w1 hrun hresp hact hcur]
    exact ihC.apply_upd hrun hresp hact _ rfl (by omega)
  | @call s w h op k ke x s1 w1 r s' w' _ _ ih1 ih2 =>
    -- two steps in the same frame: the continuations go onto the frame's stack, and come off when `expand op` has ended
    intro M f rest isHead hrun hresp hact hcur hs hw hh
    subst hs hw
    have key : Reaches (upd M isHead rest f M.store M.world) (upd M isHead rest { f with cur := resCur r } s' w') := by
      refine comp_step f _ _ (f1 := { f with konts := ⟨k, ke⟩ :: f.konts, cur := expand op }) hrun hresp hact
        (by simp only [react, hcur]) (Reaches.trans (ih1.apply_upd hrun hresp hact _ rfl hh) ?_)
      exact comp_step _ _ _ (f1 := { f with cur := pick k ke x }) hrun hresp hact (by cases x <;> rfl)
        (ih2.apply_upd hrun hresp hact _ rfl hh)
    rwa [upd_self hact] at key
  | @frameEnd s w h t s1 w1 o _ ih =>
    intro M rest hrun hresp htail hs hw hh
    refine ih.frame hrun hresp htail hs hw hh (Reaches.of_forget ?_)
    -- `finishFrame` on `newFrame s t`, whose `box` is `some t`: the store is resolved at `t`, the frame popped, the outcome pending
    cases o <;> simp [perform, outRes, newFrame, finishFrame, forget, upd, put_eq, frameOut]
  | @frameTail s w h t t' lit s1 w1 r s' w' _ _ ih1 ih2 =>
    intro M rest hrun hresp htail hs hw hh
    refine ih1.frame hrun hresp htail hs hw hh (Reaches.trans (ih2 _ rest ?_ ?_ ?_ ?_ ?_ hh) (Reaches.of_forget ?_))
    -- what `ih2` asks of the state after `tailReplace` (running, no response, tail, store, world), then the bookkeeping;
    -- the finished frame is `newFrame s t`, whose `box` is `some t`: the requestor the machine writes is the one the rule names
    all_goals simp [perform, tailReplace, newFrame, forget, upd, put_eq, hrun, hresp]

end UH.BigStep
