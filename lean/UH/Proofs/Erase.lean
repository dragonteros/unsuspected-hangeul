/- Parsing commutes with span erasure: the trees, or the kind of the syntax error, depend on the words only (for C01). -/
import UH.Model.Parse
namespace UH

mutual
def AST.erase : AST → AST
  | .lit n _ => .lit n default
  | .funRef r _ => .funRef r default
  | .argRef a r _ => .argRef (AST.erase a) r default
  | .funDef b _ => .funDef (AST.erase b) default
  | .call f args _ => .call (AST.erase f) (AST.eraseList args) default
  | .bomb => .bomb
def AST.eraseList : List AST → List AST
  | [] => []
  | a :: as => AST.erase a :: AST.eraseList as
end

theorem AST.eraseList_eq_map (l : List AST) : AST.eraseList l = l.map AST.erase := by
  induction l with
  | nil => rfl
  | cons a as ih => simp [AST.eraseList, ih]

def resErase : Except PErr (List AST) → Except PErrKind (List AST)
  | .ok s => .ok (s.map AST.erase)
  | .error e => .error e.kind

def StackRel (s s' : List AST) : Prop := s.map AST.erase = s'.map AST.erase

theorem StackRel.length {s s'} (h : StackRel s s') : s.length = s'.length := by
  have := congrArg List.length h; simpa using this

/-- every test `parseWord` makes — stack empty? arity negative? enough arguments? top a literal? — reads lengths and
constructors, which erasure keeps (`getLast?_map`, `map_dropLast`, `length_map`); the spans are only stored -/
theorem parseWord_erase (w : Word) (sp : Span) (s : List AST) :
    resErase (parseWord w sp s) = (parseWord w default (s.map AST.erase)).mapError PErr.kind := by
  cases w with
  | lit ds => simp [parseWord, resErase, Except.mapError, AST.erase]
  | h ds =>
    cases ds with
    | nil =>  -- a function definition: fails iff the stack is empty
      simp only [parseWord, List.getLast?_map]
      cases s.getLast? <;> simp [resErase, Except.mapError, AST.erase]
    | cons d ds =>  -- a call: negative arity / empty stack / too few arguments / the call node
      simp only [parseWord, List.getLast?_map]
      rw [← List.map_dropLast, List.length_map]
      split
      · rfl
      · cases s.getLast? with
        | none => rfl
        | some f =>
          dsimp only
          split
          · rfl
          · simp [resErase, Except.mapError, AST.erase, AST.eraseList_eq_map]
  | o ds =>
    simp only [parseWord, List.getLast?_map]
    cases ds with
    | cons d ds => cases s.getLast? <;> simp [resErase, Except.mapError, AST.erase]
    | nil =>  -- a function reference: the top is a literal iff its erasure is
      rcases s.getLast? with _ | a
      · simp [resErase, Except.mapError]
      · cases a <;> simp [resErase, Except.mapError, AST.erase]

theorem parseTokens_erase (ts : List Token) (s : List AST) :
    resErase (parseTokens s ts) =
      (parseTokens (s.map AST.erase) ((ts.map (·.syms)).map (⟨·, default⟩))).mapError PErr.kind := by
  induction ts generalizing s with
  | nil => rfl
  | cons t ts ih =>
    have hw : resErase (parseToken t s) =
        (parseToken ⟨t.syms, default⟩ (s.map AST.erase)).mapError PErr.kind := by
      simp only [parseToken]
      cases classify t.syms with
      | none => rfl
      | some w => exact parseWord_erase w _ s
    simp only [parseTokens, List.map_cons]
    -- by `hw` the two sides fail together or succeed together: the mixed cases go
    cases h1 : parseToken t s <;> cases h2 : parseToken ⟨t.syms, default⟩ (s.map AST.erase) <;>
      simp [h1, h2, resErase, Except.mapError] at hw
    · simp [resErase, Except.mapError, hw]  -- both fail, `hw`: with the same kind
    · rw [ih, hw]                            -- both succeed, `hw`: with stacks of equal erasure

end UH
