/-
Round trips of the UTF-8 / UTF-16 / UTF-32 codecs of the model (`UH/Model/Codec.lean`), for every list of
Unicode scalar values: helper lemmas for `UH/Properties/C16.lean`.  Each decoder gets the equations that say what
it does on one item at the front of its input; `decode_flatMap` turns them into the round trip.
-/
import UH.Model.Codec
namespace UH.Utf
open UH

theorem toNat_ofNat_lt (n : Nat) (h : n < 256) : (UInt8.ofNat n).toNat = n :=
  UInt8.toNat_ofNat_of_lt' h

theorem bytesToNatLE_natToBytesLE (w n : Nat) : bytesToNatLE (natToBytesLE w n) = n % 256 ^ w := by
  induction w generalizing n with
  | zero => simp [natToBytesLE, bytesToNatLE, Nat.mod_one]
  | succ w ih =>
    rw [natToBytesLE, bytesToNatLE, ih, toNat_ofNat_lt _ (Nat.mod_lt _ (by decide)), Nat.pow_succ, Nat.mul_comm (256 ^ w) 256]
    exact (Nat.mod_mul).symm

theorem isScalar_iff (c : Nat) : isScalar c = true ↔ (c < 0xD800 ∨ (0xE000 ≤ c ∧ c < 0x110000)) := by
  simp [isScalar]

/-- The one induction behind all the round trips: a decoder that peels one encoded item off the front of any
input inverts the item-wise encoder. -/
theorem decode_flatMap {α β : Type} (dec : List β → Option (List α)) (enc : α → List β) (P : α → Prop)
    (hnil : dec [] = some [])
    (hcons : ∀ a, P a → ∀ rest, dec (enc a ++ rest) = (dec rest).map (a :: ·)) :
    ∀ s : List α, (∀ a ∈ s, P a) → dec (s.flatMap enc) = some s
  | [], _ => hnil
  | a :: s, h => by
    rw [List.flatMap_cons, hcons a (h a (by simp)), decode_flatMap dec enc P hnil hcons s (fun x hx => h x (by simp [hx]))]
    rfl

/-- a continuation byte `10xxxxxx` hands on its six payload bits (`cont` in `utf8Decode`) -/
theorem cont_bind {α} (b : UInt8) (h : b.toNat / 64 = 2) (f : Nat → Option α) :
    ((if (b.toNat / 64 == 2) = true then some (b.toNat % 64) else none) >>= f) = f (b.toNat % 64) := by
  simp [h]

theorem utf8Decode_1 (b0 : UInt8) (r : List UInt8) (h : b0.toNat < 0x80) :
    utf8Decode (b0 :: r) = (utf8Decode r).map (b0.toNat :: ·) := by
  rw [utf8Decode.eq_def]; simp only [h, if_true]

theorem utf8Decode_2 (b0 b1 : UInt8) (r : List UInt8) (c : Nat) (h0 : 0xC2 ≤ b0.toNat) (h0' : b0.toNat < 0xE0)
    (h1 : b1.toNat / 64 = 2) (hc : (b0.toNat - 0xC0) * 64 + b1.toNat % 64 = c) :
    utf8Decode (b0 :: b1 :: r) = (utf8Decode r).map (c :: ·) := by
  have a1 : ¬ b0.toNat < 0x80 := by omega
  have a2 : ¬ b0.toNat < 0xC2 := by omega
  rw [utf8Decode.eq_def]; simp only [a1, a2, h0', if_true, if_false, cont_bind _ h1, hc]
  cases utf8Decode r <;> rfl

theorem utf8Decode_3 (b0 b1 b2 : UInt8) (r : List UInt8) (c : Nat) (h0 : 0xE0 ≤ b0.toNat) (h0' : b0.toNat < 0xF0)
    (h1 : b1.toNat / 64 = 2) (h2 : b2.toNat / 64 = 2)
    (hc : (b0.toNat - 0xE0) * 4096 + b1.toNat % 64 * 64 + b2.toNat % 64 = c)
    (hlo : ¬ c < 0x800) (hs : isScalar c = true) :
    utf8Decode (b0 :: b1 :: b2 :: r) = (utf8Decode r).map (c :: ·) := by
  have a1 : ¬ b0.toNat < 0x80 := by omega
  have a2 : ¬ b0.toNat < 0xC2 := by omega
  have a3 : ¬ b0.toNat < 0xE0 := by omega
  rw [utf8Decode.eq_def]
  simp only [a1, a2, a3, h0', if_true, if_false, cont_bind _ h1, cont_bind _ h2, hc, hlo, hs, decide_false,
    Bool.not_true, Bool.or_false, Bool.false_eq_true]
  cases utf8Decode r <;> rfl

theorem utf8Decode_4 (b0 b1 b2 b3 : UInt8) (r : List UInt8) (c : Nat) (h0 : 0xF0 ≤ b0.toNat) (h0' : b0.toNat < 0xF5)
    (h1 : b1.toNat / 64 = 2) (h2 : b2.toNat / 64 = 2) (h3 : b3.toNat / 64 = 2)
    (hc : (b0.toNat - 0xF0) * 262144 + b1.toNat % 64 * 4096 + b2.toNat % 64 * 64 + b3.toNat % 64 = c)
    (hlo : ¬ c < 0x10000) (hhi : ¬ c ≥ 0x110000) :
    utf8Decode (b0 :: b1 :: b2 :: b3 :: r) = (utf8Decode r).map (c :: ·) := by
  have a1 : ¬ b0.toNat < 0x80 := by omega
  have a2 : ¬ b0.toNat < 0xC2 := by omega
  have a3 : ¬ b0.toNat < 0xE0 := by omega
  have a4 : ¬ b0.toNat < 0xF0 := by omega
  rw [utf8Decode.eq_def]
  -- `cont_bind` and not `Option.bind_some`: that one rewrites by `rfl`, and the kernel, re-checking the step
  -- by unfolding, counts up to the literal 262144 in unary
  simp only [a1, a2, a3, a4, h0', if_true, if_false, cont_bind _ h1, cont_bind _ h2, cont_bind _ h3, hc, hlo, hhi,
    decide_false, Bool.or_false, Bool.false_eq_true]
  cases utf8Decode r <;> rfl

theorem contByte (x : Nat) :
    (UInt8.ofNat (0x80 + x % 64)).toNat / 64 = 2 ∧ (UInt8.ofNat (0x80 + x % 64)).toNat % 64 = x % 64 := by
  rw [toNat_ofNat_lt _ (by omega)]; omega

theorem utf8_char (c : Nat) (hc : isScalar c = true) (rest : List UInt8) :
    utf8Decode (utf8EncodeChar c ++ rest) = (utf8Decode rest).map (c :: ·) := by
  have hs := (isScalar_iff c).mp hc
  unfold utf8EncodeChar
  -- per length class: the bytes are in range (`e0`, `contByte`), and the payload bits reassemble, e.g.
  -- `c / 4096 · 4096 + (c / 64 % 64) · 64 + c % 64 = c` — the `omega` after the `rw` of the byte values
  split
  · have e0 := toNat_ofNat_lt c (by omega)
    rw [List.singleton_append, utf8Decode_1 _ _ (by omega), e0]
  split
  · have e0 := toNat_ofNat_lt (0xC0 + c / 64) (by omega)
    exact utf8Decode_2 _ _ rest c (by omega) (by omega) (contByte c).1
      (by rw [(contByte c).2, e0]; omega)
  split
  · have e0 := toNat_ofNat_lt (0xE0 + c / 4096) (by omega)
    exact utf8Decode_3 _ _ _ rest c (by omega) (by omega) (contByte (c / 64)).1 (contByte c).1
      (by rw [(contByte (c / 64)).2, (contByte c).2, e0, Nat.add_sub_cancel_left]; omega) (by omega) hc
  · have e0 := toNat_ofNat_lt (0xF0 + c / 262144) (by omega)
    exact utf8Decode_4 _ _ _ _ rest c (by omega) (by omega) (contByte (c / 4096)).1 (contByte (c / 64)).1 (contByte c).1
      (by rw [(contByte (c / 4096)).2, (contByte (c / 64)).2, (contByte c).2, e0, Nat.add_sub_cancel_left]; omega)
      (by omega) (by omega)

theorem utf8_decode_encode (s : List Nat) (hs : ∀ c ∈ s, isScalar c = true) :
    utf8Decode (utf8Encode s) = some s :=
  decode_flatMap utf8Decode utf8EncodeChar (isScalar · = true) rfl utf8_char s hs

theorem units16_of_bytes (big : Bool) (u : Nat) (hu : u < 65536) (rest : List UInt8) :
    bytesToUnits16 big (u16Bytes big u ++ rest) = (bytesToUnits16 big rest).map (u :: ·) := by
  have e1 := toNat_ofNat_lt (u / 256) (by omega)
  have e2 := toNat_ofNat_lt (u % 256) (by omega)
  have join : u / 256 * 256 + u % 256 = u := by omega
  cases big with
  | true => simp only [u16Bytes, if_true, List.cons_append, List.nil_append, bytesToUnits16, e1, e2, join]
  | false =>
    simp only [u16Bytes, Bool.false_eq_true, if_false, List.cons_append, List.nil_append, bytesToUnits16, e1, e2, join]

theorem utf16Units_lt (c : Nat) (hc : isScalar c = true) : ∀ u ∈ utf16Units c, u < 65536 := by
  have hs := (isScalar_iff c).mp hc
  unfold utf16Units
  split <;> simp <;> omega

theorem units16Decode_1 (u : Nat) (r : List Nat) (h : u < 0xD800 ∨ 0xE000 ≤ u) :
    units16Decode (u :: r) = (units16Decode r).map (u :: ·) := by
  rw [units16Decode.eq_def]; simp [h]

theorem units16Decode_2 (u v : Nat) (r : List Nat) (c : Nat) (hu : 0xD800 ≤ u) (hu' : u < 0xDC00) (hv : 0xDC00 ≤ v)
    (hv' : v < 0xE000) (hc : 0x10000 + (u - 0xD800) * 1024 + (v - 0xDC00) = c) :
    units16Decode (u :: v :: r) = (units16Decode r).map (c :: ·) := by
  have a1 : ¬ u < 0xD800 := by omega
  have a2 : ¬ 0xE000 ≤ u := by omega
  rw [units16Decode.eq_def]; simp [a1, a2, hu', hv, hv', hc]

theorem units16Decode_char (c : Nat) (hc : isScalar c = true) (rest : List Nat) :
    units16Decode (utf16Units c ++ rest) = (units16Decode rest).map (c :: ·) := by
  have hs := (isScalar_iff c).mp hc
  unfold utf16Units
  split
  · exact units16Decode_1 c rest (by omega)
  · exact units16Decode_2 _ _ rest c (by omega) (by omega) (by omega) (by omega) (by omega)

/-- either byte order, no BOM -/
theorem utf16_decode_encode (big : Bool) (s : List Nat) (hs : ∀ c ∈ s, isScalar c = true) :
    utf16Decode big (utf16Encode big s) = some s := by
  unfold utf16Decode utf16Encode
  have h16 : ∀ u ∈ s.flatMap utf16Units, u < 65536 := by
    intro u hu
    rcases List.mem_flatMap.mp hu with ⟨c, hc, huc⟩
    exact utf16Units_lt c (hs c hc) u huc
  rw [← List.flatMap_assoc,
    decode_flatMap (bytesToUnits16 big) (u16Bytes big) (· < 65536) (bytesToUnits16.eq_1 big) (units16_of_bytes big) _ h16]
  exact decode_flatMap units16Decode utf16Units (isScalar · = true) units16Decode.eq_1 units16Decode_char s hs

theorem utf32_char (big : Bool) (c : Nat) (hc : isScalar c = true) (rest : List UInt8) :
    utf32Decode big (u32Bytes big c ++ rest) = (utf32Decode big rest).map (c :: ·) := by
  have hs := (isScalar_iff c).mp hc
  have hv : bytesToNatLE (natToBytesLE 4 c) = c := by
    rw [bytesToNatLE_natToBytesLE, Nat.mod_eq_of_lt (by omega)]
  simp only [natToBytesLE] at hv  -- unfolded to the four literal bytes `simp` will meet
  cases big <;> simp [u32Bytes, natToBytesLE, utf32Decode, hv, hc]

theorem utf32_decode_encode (big : Bool) (s : List Nat) (hs : ∀ c ∈ s, isScalar c = true) :
    utf32Decode big (utf32Encode big s) = some s :=
  decode_flatMap (utf32Decode big) (u32Bytes big) (isScalar · = true) rfl (utf32_char big) s hs

theorem bom16 (s : List Nat) : utf16Encode false (0xFEFF :: s) = 0xFF :: 0xFE :: utf16Encode false s := by
  simp [utf16Encode, utf16Units, u16Bytes]

theorem bom32 (s : List Nat) : utf32Encode false (0xFEFF :: s) = 0xFF :: 0xFE :: 0 :: 0 :: utf32Encode false s := by
  simp [utf32Encode, u32Bytes, natToBytesLE]

/-- decoding inverts encoding for UTF-8, and for UTF-16 / 32 with an explicit byte order (no BOM is written and a
leading U+FEFF is ordinary payload) and without one (a little-endian BOM is written, recognised and removed) -/
theorem utf_decode_encode (width : Nat) (order : Option Bool) (s : List Nat) (hs : ∀ c ∈ s, isScalar c = true)
    (b : List UInt8) (h : utfEncode width order s = some b) : utfDecode width order b = some s := by
  unfold utfEncode at h
  unfold utfDecode
  match width, order, h with  -- for any other codec name `utfEncode` gives `none`, against `h`
  | 1, none, h => cases h; exact utf8_decode_encode s hs
  | 2, none, h => cases h; rw [bom16]; exact utf16_decode_encode false s hs  -- the decoder's `match` meets the BOM
  | 2, some big, h => cases h; exact utf16_decode_encode big s hs
  | 4, none, h => cases h; rw [bom32]; exact utf32_decode_encode false s hs
  | 4, some big, h => cases h; exact utf32_decode_encode big s hs

end UH.Utf
