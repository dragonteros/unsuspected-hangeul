/-
A bounded universal quantifier that splits its range in halves (`allPow`), with its soundness lemma.
Nothing in the development uses it.
-/
namespace UH

/-- all `c ∈ [lo, lo + 2^k)` satisfy `p` -/
def allPow (p : Nat → Bool) : Nat → Nat → Bool
  | 0, lo => p lo
  | k+1, lo => allPow p k lo && allPow p k (lo + 2^k)

theorem allPow_sound (p : Nat → Bool) :
    ∀ k lo, allPow p k lo = true → ∀ c, lo ≤ c → c < lo + 2^k → p c = true := by
  intro k
  induction k with
  | zero =>
    intro lo h c h1 h2
    simp [allPow] at *
    have : c = lo := by omega
    subst this; exact h
  | succ k ih =>
    intro lo h c h1 h2
    simp [allPow] at h
    by_cases hc : c < lo + 2^k
    · exact ih lo h.1 c h1 hc
    · exact ih (lo + 2^k) h.2 c (by omega) (by rw [Nat.pow_succ] at h2; omega)

end UH
