/-
One micro-step of the machine, taken apart once:  `step m = perform m f rest isHead (react …)` where
`(f, rest, isHead) = active m`: `react` is what the active coroutine does, `perform` what the loop of `evaluate` does with the
answer.  Every invariant of `step` is about one of the two halves.  `stepCore`, `put`, `active`, `step_eq_core` carry the
namespace `UH.Unforced` of the C03 simulation (`Proofs/Unforced.lean`), which states `stepCore_patch` about them; outside this
file and that theorem (with `step_patch`, which uses `step_eq_core`) nothing mentions `stepCore` — everything else goes
through `step_eq`.
-/
import UH.Proofs.Store
namespace UH.Unforced
open UH

def put (isHead : Bool) (rest : List Frame) (f' : Frame) (m : MState) : MState :=
  if isHead then { m with head := f' } else { m with tail := f' :: rest }

/-- the body of `step` for a running machine whose active frame is `f` (`rest` below it) -/
def stepCore (m : MState) (f : Frame) (rest : List Frame) (isHead : Bool) : MState :=
    match m.resp with
    | some r =>
      match f.cur with
      | .force _ k ke =>
        let cur' := match r with | .ok v => k v | .error e => ke e
        put isHead rest { f with cur := cur' } { m with resp := none }
      | _ => { m with status := .bottom }
    | none =>
      match f.cur with
      | .ret r =>
        match f.konts with
        | kt :: ks => put isHead rest { f with konts := ks, cur := kt.k r } m
        | [] =>
          if isHead then { m with status := .done (.ok r) } else
          match r with
          | .arg (.thunk t' _) =>
            let store := { m.store with cells := m.store.cells.modify t' (fun c => { c with requestor := f.box }) }
            let fresh := (store.getCell t').value.isNone
            { m with store := store, tail := newFrame store t' :: rest,
                     depth := m.depth + 1,
                     dstack := (match m.dstack with | l :: ls => (t' :: l) :: ls | [] => [[t']]),
                     events := Event.before (m.depth + 1) t' :: m.events,
                     starts := if fresh then t' :: m.starts else m.starts }
          | .arg (.strict v) => finishFrame m f rest (.ok v)
          | _ => { m with status := .bottom }
      | .throw e =>
        match f.konts with
        | kt :: ks => put isHead rest { f with konts := ks, cur := kt.ke e } m
        | [] =>
          if isHead then { m with status := .done (.error e) } else finishFrame m f rest (.error e)
      | .bottom => { m with status := .bottom }
      | .unmodelled why => { m with status := .unmodelled why }
      | .force t k ke =>
        match (m.store.getCell t).value with
        | some (.ok v) => put isHead rest { f with cur := k v } m
        | some (.error e) => put isHead rest { f with cur := ke e } m
        | none =>
          let tail' := newFrame m.store t :: m.tail
          let m' := { m with tail := tail', depth := m.depth + 1, dstack := [t] :: m.dstack,
                             events := Event.before (m.depth + 1) t :: m.events,
                             starts := t :: m.starts }
          if tail'.length ≥ maxStackSize then { m' with status := .limit } else m'
      | .newThunk e env k =>
        let t := m.store.cells.size
        put isHead rest { f with cur := k t } { m with store := { m.store with cells := m.store.cells.push { expr := e, env := env } } }
      | .newFn mk k =>
        let id := m.store.fns.size
        put isHead rest { f with cur := k id } { m with store := { m.store with fns := m.store.fns.push (mk id) } }
      | .getFn id k =>
        match m.store.fns.get? id with
        | some o => put isHead rest { f with cur := k o } m
        | none => { m with status := .bottom }
      | .call op k ke => put isHead rest { f with konts := ⟨k, ke⟩ :: f.konts, cur := expand op } m
      | .world op k ke =>
        match doWorld m.store m.world op with
        | (st, w, .ok a) => put isHead rest { f with cur := k a } { m with store := st, world := w }
        | (st, w, .err e) => put isHead rest { f with cur := ke e } { m with store := st, world := w }
        | (_, _, .unmodelled why) => { m with status := .unmodelled why }

/-- the active frame, the frames below it, and whether it is the head coroutine -/
def active (m : MState) : Frame × List Frame × Bool :=
  match m.tail with
  | f :: rest => (f, rest, false)
  | [] => (m.head, [], true)

/-- the definitions are literally the same text -/
theorem step_eq_core (m : MState) (h : m.status = .running) :
    step m = stepCore m (active m).1 (active m).2.1 (active m).2.2 := by
  obtain ⟨store, world, head, tail, resp, status, depth, dstack, events, starts⟩ := m
  cases h
  cases tail <;> rfl

end UH.Unforced

namespace UH
open Unforced

/-- `put` written so that every field can be read off -/
theorem put_eq (b : Bool) (rest : List Frame) (f' : Frame) (m : MState) :
    put b rest f' m = { m with head := if b then f' else m.head, tail := if b then m.tail else f' :: rest } := by
  cases b <;> rfl

theorem active_tail {m : MState} {f : Frame} {rest : List Frame} (h : active m = (f, rest, false)) :
    m.tail = f :: rest := by
  unfold active at h
  match m.tail, h with
  | _ :: _, h => cases h; rfl
  | [], h => cases h

theorem active_head {m : MState} {f : Frame} {rest : List Frame} (h : active m = (f, rest, true)) :
    m.tail = [] ∧ m.head = f ∧ rest = [] := by
  unfold active at h
  match m.tail, h with
  | _ :: _, h => cases h
  | [], h => cases h; exact ⟨rfl, rfl, rfl⟩

theorem put_tail_length {m : MState} {f : Frame} {rest : List Frame} {b : Bool} (h : active m = (f, rest, b))
    (f' : Frame) : (if b then m.tail else f' :: rest).length = m.tail.length := by
  cases b with
  | true => rfl
  | false => simp [active_tail h]

/-- what the active coroutine hands to the loop of `evaluate` -/
inductive Action where
  /-- it goes on in its own frame (a pending response, if there was one, has been consumed) -/
  | cont (f' : Frame) (s : Store) (w : World)
  /-- `yield request` for a cell that has no value yet -/
  | request (t : TId)
  /-- the generator chain of the frame is exhausted: a result or an exception leaves the frame -/
  | finish (r : Except ErrV Res)
  | bottom
  | unmodelled (why : String)

/-- `StackFrame.communicate`: the coroutine reads the store, the world, the response and its frame — nothing else -/
def react (s : Store) (w : World) (resp : Option Outcome) (f : Frame) : Action :=
  match resp with
  | some r =>
    match f.cur with
    | .force _ k ke => .cont { f with cur := match r with | .ok v => k v | .error e => ke e } s w
    | _ => .bottom
  | none =>
    match f.cur with
    | .ret r =>
      match f.konts with
      | kt :: ks => .cont { f with konts := ks, cur := kt.k r } s w
      | [] => .finish (.ok r)
    | .throw e =>
      match f.konts with
      | kt :: ks => .cont { f with konts := ks, cur := kt.ke e } s w
      | [] => .finish (.error e)
    | .bottom => .bottom
    | .unmodelled why => .unmodelled why
    | .force t k ke =>
      match (s.getCell t).value with
      | some (.ok v) => .cont { f with cur := k v } s w
      | some (.error e) => .cont { f with cur := ke e } s w
      | none => .request t
    | .newThunk e env k => .cont { f with cur := k s.cells.size } { s with cells := s.cells.push { expr := e, env := env } } w
    | .newFn mk k => .cont { f with cur := k s.fns.size } { s with fns := s.fns.push (mk s.fns.size) } w
    | .getFn id k =>
      match s.fns.get? id with
      | some o => .cont { f with cur := k o } s w
      | none => .bottom
    | .call op k ke => .cont { f with konts := ⟨k, ke⟩ :: f.konts, cur := expand op } s w
    | .world op k ke =>
      match doWorld s w op with
      | (st, w', .ok a) => .cont { f with cur := k a } st w'
      | (st, w', .err e) => .cont { f with cur := ke e } st w'
      | (_, _, .unmodelled why) => .unmodelled why

/-- the tail return of `interpret.py:120-123`: the frame `f` on top of `rest` is replaced by a frame for `t'` -/
def tailReplace (m : MState) (f : Frame) (rest : List Frame) (t' : TId) : MState :=
  let store := setRequestor m.store t' f.box
  { m with store := store, tail := newFrame store t' :: rest,
           depth := m.depth + 1,
           dstack := (match m.dstack with | l :: ls => (t' :: l) :: ls | [] => [[t']]),
           events := Event.before (m.depth + 1) t' :: m.events,
           starts := if (store.getCell t').value.isNone then t' :: m.starts else m.starts }

/-- `tail.append(StackFrame(request))` -/
def pushFrame (m : MState) (t : TId) : MState :=
  { m with tail := newFrame m.store t :: m.tail, depth := m.depth + 1, dstack := [t] :: m.dstack,
           events := Event.before (m.depth + 1) t :: m.events, starts := t :: m.starts }

/-- the loop of `evaluate`: what becomes of the stack and of the observer's bookkeeping -/
def perform (m : MState) (f : Frame) (rest : List Frame) (isHead : Bool) : Action → MState
  | .cont f' s w => put isHead rest f' { m with store := s, world := w, resp := none }
  | .request t =>
    if m.tail.length + 1 ≥ maxStackSize then { pushFrame m t with status := .limit } else pushFrame m t
  | .finish r =>
    if isHead then { m with status := .done r } else
    match r with
    | .ok (.arg (.thunk t' _)) => tailReplace m f rest t'
    | .ok (.arg (.strict v)) => finishFrame m f rest (.ok v)
    | .ok _ => { m with status := .bottom }
    | .error e => finishFrame m f rest (.error e)
  | .bottom => { m with status := .bottom }
  | .unmodelled why => { m with status := .unmodelled why }

theorem stepCore_eq (m : MState) (f : Frame) (rest : List Frame) (isHead : Bool) :
    stepCore m f rest isHead = perform m f rest isHead (react m.store m.world m.resp f) := by
  obtain ⟨store, world, head, tail, resp, status, depth, dstack, events, starts⟩ := m
  obtain ⟨box, konts, cur⟩ := f
  cases resp with
  | some r => cases cur <;> rfl
  | none =>
    cases cur with
    | ret r =>
      cases konts with
      | cons kt ks => rfl
      | nil =>
        cases isHead with
        | true => rfl
        | false =>
          cases r with
          | arg a => cases a <;> rfl
          | _ => rfl
    | throw e => cases konts <;> cases isHead <;> rfl
    | force t k ke => simp only [stepCore, react]; split <;> rfl
    | getFn id k => simp only [stepCore, react]; split <;> rfl
    | world op k ke => simp only [stepCore, react]; split <;> rfl
    | _ => rfl

theorem step_eq {m : MState} (h : m.status = .running) {f : Frame} {rest : List Frame} {isHead : Bool}
    (ha : active m = (f, rest, isHead)) :
    step m = perform m f rest isHead (react m.store m.world m.resp f) := by
  rw [step_eq_core m h, ha, stepCore_eq]

theorem step_not_running (m : MState) (h : m.status ≠ .running) : step m = m := by
  unfold step
  split
  next hs => exact absurd hs h
  next => rfl

theorem runN_succ_running (n : Nat) (m : MState) (h : m.status = .running) : runN (n + 1) m = runN n (step m) := by
  simp [runN, h]

theorem runN_not_running (n : Nat) (m : MState) (h : m.status ≠ .running) : runN n m = m := by
  cases n with
  | zero => rfl
  | succ n =>
    unfold runN
    split
    next hs => exact absurd hs h
    next => rfl

theorem react_request {s w resp f t} (h : react s w resp f = .request t) : (s.getCell t).value = none := by
  obtain ⟨box, konts, cur⟩ := f
  cases resp with
  | some r => cases cur <;> cases h
  | none =>
    cases cur with
    | force t' k ke =>
      simp only [react] at h
      match hv : (s.getCell t').value, h with
      | none, h => cases h; exact hv  -- with a value in the cell the coroutine goes on: no request
    | ret r => cases konts <;> cases h
    | throw e => cases konts <;> cases h
    | getFn id k => simp only [react] at h; split at h <;> cases h
    | world op k ke => simp only [react] at h; split at h <;> cases h
    | _ => cases h

end UH
