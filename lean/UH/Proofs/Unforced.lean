/-
C03 core: a delayed expression whose evaluation is never started is irrelevant to the run of the machine.
A simulation between two machines whose stores agree except for what one cell delays, proved for the two halves
of a step (`Proofs/Step.lean`): the coroutine (`react_rel`) reads cell values, function objects and the number of
cells, never a delayed expression; the loop (`perform_sim`) reads one only through `newFrame`, and then logs the start.
-/
import UH.Proofs.MachineInv
namespace UH.Unforced
open UH

/-- two cells agree on everything evaluation has learned (value, requestor) and — unless the cell is `u` — on
the expression and environment they delay -/
structure CellRel (u t : TId) (c c' : Cell) : Prop where
  value : c'.value = c.value
  requestor : c'.requestor = c.requestor
  expr : t ≠ u → c'.expr = c.expr ∧ c'.env = c.env

theorem CellRel.refl (u t : TId) (c : Cell) : CellRel u t c c := ⟨rfl, rfl, fun _ => ⟨rfl, rfl⟩⟩

def ORel (R : Cell → Cell → Prop) : Option Cell → Option Cell → Prop
  | none, none => True
  | some c, some c' => R c c'
  | _, _ => False

def CellsRel (u : TId) (h h' : Heap Cell) : Prop :=
  h'.size = h.size ∧ ∀ t, ORel (CellRel u t) (h.get? t) (h'.get? t)

structure StoreRel (u : TId) (s s' : Store) : Prop where
  fns : s'.fns = s.fns
  cells : CellsRel u s.cells s'.cells

theorem CellsRel.refl (u : TId) (h : Heap Cell) : CellsRel u h h :=
  ⟨rfl, fun t => by cases h.get? t <;> simp [ORel, CellRel.refl]⟩

theorem StoreRel.refl (u : TId) (s : Store) : StoreRel u s s := ⟨rfl, CellsRel.refl u _⟩

theorem ORel.getD {R : Cell → Cell → Prop} {a b : Option Cell} (h : ORel R a b) {d : Cell} (hd : R d d) :
    R (a.getD d) (b.getD d) :=
  match a, b, h with
  | none, none, _ => hd
  | some _, some _, h => h

theorem ORel.map {R R' : Cell → Cell → Prop} {a b : Option Cell} (h : ORel R a b) {f : Cell → Cell}
    (hf : ∀ c c', R c c' → R' (f c) (f c')) : ORel R' (a.map f) (b.map f) :=
  match a, b, h with
  | none, none, _ => trivial
  | some c, some c', h => hf c c' h

theorem getCell_rel {u : TId} {s s' : Store} (h : StoreRel u s s') (t : TId) :
    CellRel u t (s.getCell t) (s'.getCell t) := by
  rw [Store.getCell_eq, Store.getCell_eq]
  exact (h.cells.2 t).getD (CellRel.refl ..)

theorem CellsRel.modify {u : TId} {h h' : Heap Cell} (hr : CellsRel u h h') (t : TId) (f : Cell → Cell)
    (hf : ∀ c c', CellRel u t c c' → CellRel u t (f c) (f c')) : CellsRel u (h.modify t f) (h'.modify t f) := by
  refine ⟨by simp [hr.1], fun j => ?_⟩
  rw [Heap.get?_modify, Heap.get?_modify]
  split
  next e => subst e; exact (hr.2 t).map hf
  next => exact hr.2 j

theorem CellsRel.push {u : TId} {h h' : Heap Cell} (hr : CellsRel u h h') (c : Cell) :
    CellsRel u (h.push c) (h'.push c) := by
  refine ⟨by simp [hr.1], fun j => ?_⟩
  rw [Heap.get?_push, Heap.get?_push, hr.1]
  split
  · exact CellRel.refl ..
  · exact hr.2 j

theorem setValue_rel {u : TId} {s s' : Store} (h : StoreRel u s s') (t : TId) (v : Outcome) :
    StoreRel u (s.setValue t v) (s'.setValue t v) :=
  ⟨h.fns, h.cells.modify t _ (fun _ _ hc => ⟨rfl, hc.requestor, hc.expr⟩)⟩

theorem setRequestor_rel {u : TId} {s s' : Store} (h : StoreRel u s s') (t : TId) (b : Option TId) :
    StoreRel u (setRequestor s t b) (setRequestor s' t b) :=
  ⟨h.fns, h.cells.modify t _ (fun _ _ hc => ⟨hc.value, rfl, hc.expr⟩)⟩

theorem resolve_rel {u : TId} (v : Outcome) : ∀ (fuel : Nat) (s s' : Store) (t : TId), StoreRel u s s' →
    StoreRel u (s.resolve fuel t v) (s'.resolve fuel t v) := by
  intro fuel
  induction fuel with
  | zero => intro s s' t h; exact h
  | succ fuel ih =>
    intro s s' t h
    unfold Store.resolve
    have hreq := (getCell_rel h t).requestor
    rw [hreq]
    cases (s.getCell t).requestor with
    | none => exact setValue_rel h t v
    | some r => exact ih _ _ r (setValue_rel h t v)

theorem newFrame_rel {u : TId} {s s' : Store} (h : StoreRel u s s') (t : TId)
    (ht : t ≠ u ∨ (s.getCell t).value ≠ none) : newFrame s' t = newFrame s t := by
  have hc := getCell_rel h t
  unfold newFrame
  simp only [hc.value]
  cases hv : (s.getCell t).value with
  | some o => cases o <;> rfl
  | none =>
    rcases ht with ht | ht
    · obtain ⟨he, hn⟩ := hc.expr ht
      rw [he, hn]
    · exact absurd hv ht

theorem StoreRel.size {u : TId} {s s' : Store} (h : StoreRel u s s') : s'.cells.size = s.cells.size := h.cells.1

theorem StoreRel.alloc {u : TId} {s s' : Store} (h : StoreRel u s s') (a : Alloc) : StoreRel u (a.apply s) (a.apply s') := by
  cases a with
  | none => exact h
  | fn o => exact ⟨by simp [Alloc.apply, h.fns], h.cells⟩
  | cell c => exact ⟨h.fns, h.cells.push c⟩

theorem doWorld_rel {u : TId} {st st' : Store} (h : StoreRel u st st') (w : World) (op : WOp) :
    StoreRel u (doWorld st w op).1 (doWorld st' w op).1 ∧ (doWorld st' w op).2 = (doWorld st w op).2 := by
  obtain ⟨a, wr, h1, h2⟩ := doWorld_alloc h.fns h.size w op
  rw [h1, h2]
  exact ⟨h.alloc a, rfl⟩

def Sim (u : TId) (a b : MState) : Prop := ∃ s'', b = { a with store := s'' } ∧ StoreRel u a.store s''

theorem Sim.mk' {u : TId} (m : MState) (s' : Store) (h : StoreRel u m.store s') : Sim u m { m with store := s' } :=
  ⟨s', rfl, h⟩

theorem finishFrame_sim {u : TId} (m : MState) (s' : Store) (hrel : StoreRel u m.store s') (f : Frame) (rest : List Frame)
    (r : Outcome) : Sim u (finishFrame m f rest r) (finishFrame { m with store := s' } f rest r) := by
  unfold finishFrame Sim
  cases hb : f.box with
  | none => exact ⟨s', rfl, hrel⟩
  | some t =>
    refine ⟨s'.resolve (m.store.cells.size + 1) t r, ?_, resolve_rel r _ _ _ t hrel⟩
    simp only [hrel.size]

inductive ActRel (u : TId) : Action → Action → Prop
  | cont (f' : Frame) (w : World) {s s' : Store} (h : StoreRel u s s') : ActRel u (.cont f' s w) (.cont f' s' w)
  | request (t : TId) : ActRel u (.request t) (.request t)
  | finish (r : Except ErrV Res) : ActRel u (.finish r) (.finish r)
  | bottom : ActRel u .bottom .bottom
  | unmodelled (why : String) : ActRel u (.unmodelled why) (.unmodelled why)

theorem react_rel {u : TId} {s s' : Store} (h : StoreRel u s s') (w : World) (resp : Option Outcome) (f : Frame) :
    ActRel u (react s w resp f) (react s' w resp f) := by
  obtain ⟨box, konts, cur⟩ := f
  cases resp with
  | some r =>
    cases cur with
    | force => exact .cont _ _ h
    | _ => exact .bottom
  | none =>
    cases cur with
    | ret r | throw e =>
      cases konts with
      | nil => exact .finish _
      | cons => exact .cont _ _ h
    | bottom => exact .bottom
    | unmodelled why => exact .unmodelled why
    | force t k ke =>
      simp only [react, (getCell_rel h t).value]
      split
      · exact .cont _ _ h
      · exact .cont _ _ h
      · exact .request t
    | newThunk e env k =>
      simp only [react, h.size]
      exact .cont _ _ ⟨h.fns, h.cells.push _⟩
    | newFn mk k =>
      simp only [react, h.fns]
      exact .cont _ _ ⟨rfl, h.cells⟩
    | getFn id k =>
      simp only [react, h.fns]
      split
      · exact .cont _ _ h
      · exact .bottom
    | call op k ke => exact .cont _ _ h
    | world op k ke =>
      obtain ⟨a, ⟨w1, r⟩, h1, h2⟩ := doWorld_alloc h.fns h.size w op
      simp only [react, h1, h2]
      cases r with
      | ok x => exact .cont _ _ (h.alloc a)
      | err e => exact .cont _ _ (h.alloc a)
      | unmodelled why => exact .unmodelled why

theorem perform_sim {u : TId} (m : MState) (s' : Store) (f : Frame) (rest : List Frame) (b : Bool) {a a' : Action}
    (ha : ActRel u a a') (hrel : StoreRel u m.store s') (hu : u ∉ (perform m f rest b a).starts) :
    Sim u (perform m f rest b a) (perform { m with store := s' } f rest b a') := by
  cases ha with
  | cont f' w h => cases b <;> exact ⟨_, rfl, h⟩
  | bottom => exact Sim.mk' _ _ hrel
  | unmodelled why => exact Sim.mk' _ _ hrel
  | request t =>
    have htu : t ≠ u := by
      rintro rfl
      simp only [perform] at hu
      split at hu <;> exact hu (by simp [pushFrame])
    simp only [perform, pushFrame, newFrame_rel hrel t (.inl htu)]
    split <;> exact Sim.mk' _ _ hrel
  | finish r =>
    cases b with
    | true => exact Sim.mk' _ _ hrel
    | false =>
      simp only [perform, Bool.false_eq_true, if_false] at hu ⊢
      match r, hu with
      | .ok (.arg (.thunk t' lit)), hu =>
        -- tail return to `t'`: its cell has a value, or the start is logged — and then `t'` is not `u`
        have hrel' := setRequestor_rel hrel t' f.box
        have hnew : t' ≠ u ∨ ((setRequestor m.store t' f.box).getCell t').value ≠ none := by
          by_cases hn : ((setRequestor m.store t' f.box).getCell t').value = none
          · left; rintro rfl; exact hu (by simp [tailReplace, hn])
          · exact .inr hn
        refine ⟨_, ?_, hrel'⟩
        simp only [tailReplace]
        rw [(getCell_rel hrel' t').value, newFrame_rel hrel' t' hnew]
      | .ok (.arg (.strict v)), _ => exact finishFrame_sim _ _ hrel _ _ (.ok v)
      | .error e, _ => exact finishFrame_sim _ _ hrel _ _ (.error e)
      | .ok (.key _), _ | .ok (.str _), _ => exact Sim.mk' _ _ hrel

theorem stepCore_patch (u : TId) (m : MState) (s' : Store) (f : Frame) (rest : List Frame) (isHead : Bool)
    (hrel : StoreRel u m.store s') (hu : u ∉ (stepCore m f rest isHead).starts) :
    Sim u (stepCore m f rest isHead) (stepCore { m with store := s' } f rest isHead) := by
  rw [stepCore_eq] at hu ⊢
  rw [stepCore_eq]  -- the instance for the other store
  exact perform_sim m s' f rest isHead (react_rel hrel ..) hrel hu

theorem step_patch (u : TId) (m : MState) (s' : Store) (hrel : StoreRel u m.store s') (hu : u ∉ (step m).starts) :
    Sim u (step m) (step { m with store := s' }) := by
  by_cases hst : m.status = .running
  · rw [step_eq_core m hst] at hu ⊢
    rw [step_eq_core { m with store := s' } hst]
    exact stepCore_patch u m s' _ _ _ hrel hu
  · rw [step_not_running m hst, step_not_running { m with store := s' } hst]
    exact Sim.mk' _ _ hrel

theorem starts_mono_step (m : MState) (x : TId) (hx : x ∈ m.starts) : x ∈ (step m).starts := by
  rcases step_starts m with h | ⟨t, h, _⟩ <;> rw [h]
  · exact hx
  · exact List.mem_cons_of_mem _ hx

theorem starts_mono_runN (n : Nat) (m : MState) (x : TId) (hx : x ∈ m.starts) : x ∈ (runN n m).starts :=
  runN_inv (P := fun m => x ∈ m.starts) (fun m => starts_mono_step m x) n m hx

/-- a delayed expression that is never started is irrelevant, for any second store related by `StoreRel u`
(the cell `u` may delay a different expression in a different environment) -/
theorem runN_patch (u : TId) (n : Nat) : ∀ (m : MState) (s' : Store), StoreRel u m.store s' →
    u ∉ (runN n m).starts → Sim u (runN n m) (runN n { m with store := s' }) := by
  induction n with
  | zero => intro m s' hrel _; exact Sim.mk' _ _ hrel
  | succ n ih =>
    intro m s' hrel hu
    by_cases hst : m.status = .running
    · rw [runN_succ_running n m hst] at hu ⊢
      rw [runN_succ_running n { m with store := s' } hst]
      have hu1 : u ∉ (step m).starts := fun h => hu (starts_mono_runN n _ _ h)
      obtain ⟨s'', heq, hrel''⟩ := step_patch u m s' hrel hu1
      rw [heq]
      exact ih (step m) s'' hrel'' hu
    · rw [runN_not_running _ m hst]
      rw [runN_not_running _ { m with store := s' } hst]
      exact Sim.mk' _ _ hrel

def patchCell (s : Store) (u : TId) (e : AST) (env : Env) : Store :=
  { s with cells := s.cells.modify u (fun c => { c with expr := e, env := env }) }

theorem patchCell_rel (s : Store) (u : TId) (e : AST) (env : Env) : StoreRel u s (patchCell s u e env) := by
  refine ⟨rfl, by simp [patchCell], fun t => ?_⟩
  simp only [patchCell, Heap.get?_modify]
  split
  next h =>
    subst h
    cases s.cells.get? u with
    | none => trivial
    | some c => exact ⟨rfl, rfl, fun h => absurd rfl h⟩
  next => exact (CellsRel.refl u _).2 t

/-- C03, for every program and every replacement: if running the machine for `n` steps never starts the delayed
expression `u`, then replacing what `u` delays — by an expression that raises, diverges, would print, anything —
changes neither the status (result / exception / limit), nor the world (stdin, stdout, files), nor the frames,
nor the observer's events, nor which cells were started; only the store differs, and only in the expression and
environment `u` delays -/
theorem unforced_irrelevant (u : TId) (e : AST) (env : Env) (n : Nat) (m : MState) (hu : u ∉ (runN n m).starts) :
    let r := runN n m
    let r' := runN n { m with store := patchCell m.store u e env }
    r'.status = r.status ∧ r'.world = r.world ∧ r'.head = r.head ∧ r'.tail = r.tail ∧ r'.events = r.events ∧
      r'.starts = r.starts ∧ r'.depth = r.depth ∧ StoreRel u r.store r'.store := by
  intro r r'
  obtain ⟨s'', heq, hrel⟩ := runN_patch u n m _ (patchCell_rel m.store u e env) hu
  have h : r' = { r with store := s'' } := heq
  rw [h]
  exact ⟨rfl, rfl, rfl, rfl, rfl, rfl, rfl, hrel⟩

end UH.Unforced
